/-
  C09 -- helper names.  The identifiers the emitted code mentions literally are extracted from
  the source on every run (Gen/Dispatch.lean: `emittedIdentifiers`, `reservedTemplates`).
-/
import OlVerif.Gen.Dispatch
import OlVerif.Lower.BindersStmt

namespace OlVerif.C09

/-- helper identifiers without the reserved prefix that have been audited:
    * `_`, `__`  : bound and used only inside the chain-call runner's own lambdas,
    * `self`, `it` : parameters of the lambdas of the iterator-wrapper preset,
    * `__class__` : the cell the class loader provides for zero-argument `super()`,
    * `itertools`, `importlib` : the two helper modules the property allows (known finding KF-D40),
    * builtins called by plain name (known finding KF-D41). -/
def auditedHelpers : List String :=
  ["_", "__", "self", "it", "__class__", "itertools", "importlib",
   "__import__", "classmethod", "globals", "hasattr", "iter", "list", "locals", "next", "setattr",
   "slice", "tuple", "type"]

/-- **No new un-prefixed helper**: every identifier the emitted code mentions literally either
    carries the reserved prefix or is on the audited list. -/
theorem emitted_identifiers_audited :
    ∀ id ∈ emittedIdentifiers, id.startsWith "__ol_" = true ∨ id ∈ auditedHelpers := by decide +kernel

/-- every reserved-name template carries the reserved prefix -/
theorem templates_prefixed : ∀ t ∈ reservedTemplates, t.2.startsWith "__ol_" = true := by decide +kernel

/-- the supply hands out a new number each time (the model of `unique_id` is injective) -/
theorem supply_advances (s : Supply) (p : String) : (s.fresh p).2.next = s.next + 1 := rfl

/-- **Two helper names of one conversion never coincide**: names handed out at different counter
    values differ, whatever their purposes (the supply is injective; `fresh_inj` decodes the
    counter back from the name) -/
theorem helper_names_distinct (s t : Supply) (p q : String) (h : s.next ≠ t.next) :
    (s.fresh p).1 ≠ (t.fresh q).1 :=
  fun he => h (fresh_inj s t p q he)

/-- every name the supply hands out starts with the reserved prefix, whatever the purpose -/
theorem helper_names_prefixed (s : Supply) (p : String) : (s.fresh p).1.toList.take 5 = "__ol_".toList :=
  fresh_prefix s p

/-- the comprehension-local helper variables of while loops and class loaders are reserved names -/
theorem loop_helpers_reserved :
    whileCounter.startsWith "__ol_" = true ∧ classKey.startsWith "__ol_" = true ∧ classValue.startsWith "__ol_" = true := by decide +kernel


/-! ### which names the converted program binds -/

/-- **No foreign binder.**  `bnd e` lists every name bound anywhere inside the expression `e`:
    walrus targets, lambda parameters of every kind, comprehension target names; `srcB body` the
    names the script itself binds (assignment / loop / comprehension targets, def and class names,
    parameters, imported names, walrus targets).  Every name the converted program binds is a name
    the script binds, or carries the reserved prefix `__ol_`, or is one of the seven audited helper
    names (`_`, `__`, `self`, `it`, `__class__`, `itertools`, `importlib`) - for every program, every
    configuration, every symbol table.  Induction over all statement kinds (`Lower/BindersStmt.lean`)
    on top of: the expression transformer adds no binder (`transf_bnd`, 13 mutual functions), every
    namespace of the tree `generateNsp` builds has reserved names, every temporary comes from the
    name supply (`res_fresh`). -/
theorem no_foreign_binders (cfg : Cfg) (root : SymScope) (body : List Stmt) (e : Expr)
    (h : lowerFull cfg root body = .ok e) :
    ∀ x ∈ bnd e, x ∈ srcB body ∨ x.toList.take 5 = "__ol_".toList ∨ x ∈ auditedBinders :=
  lowerFull_bnd cfg root body e h

/-- the expression transformer binds nothing the expression did not bind -/
theorem transformer_adds_no_binder (n : Nsp) (b : List String) (e e' : Expr) (h : transf n b e = .ok e') :
    ∀ x ∈ bnd e', x ∈ bnd e :=
  fun _ hx => transf_bnd n b e e' h hx

end OlVerif.C09
