/-
  C03: the custom unparser's output against CPython's expression grammar.
-/
import OlVerif.Unparse.DerivesProof
import OlVerif.Unparse.WFB

namespace OlVerif.C03

/-- **The ladder never omits parentheses the grammar needs.**  For every child position `s`
    and every ordinary node kind `k`: if the code leaves a `k` child in slot `s` without
    parentheses (`nodePrec k ≤ slotPrec s`, both regenerated from /repo on every run), then the
    grammar produces `k` at a level that may stand at that position. -/
theorem table_sound (s : Slot) (k : Kind) (hk : k.ordinary = true) (hs : s.exprSlot = true)
    (h : nodePrec k ≤ slotPrec s) : kindLv k ≤ slotLv s :=
  OlVerif.table_sound s k hk hs h

/-- Starred elements, slices and replacement fields are never parenthesised where the grammar
    allows them (`(*a)`, `(1:2)` and `({x})` would be wrong or change the tree). -/
theorem special_never_wrapped :
    (∀ s ∈ starredSlots, nodePrec .starred ≤ slotPrec s) ∧
    (∀ s ∈ sliceSlots, nodePrec .slice ≤ slotPrec s) ∧
    nodePrec .formattedValue ≤ slotPrec .jsValue :=
  OlVerif.special_never_wrapped

/-- executable form used by the failing-input search agrees with the theorem -/
theorem tableViolations_empty : tableViolations = [] := OlVerif.tableViolations_empty


/-- **Every rendering parses back to the tree it came from.**  For every well-formed expression
    tree `e` (`wfE`: the shapes `ast.parse` produces and the converter emits), of any size and
    depth, the token list the unparser model writes for `e` is derived by CPython's expression
    grammar (`D`, Grammar/Derives.lean, written from python.gram without reference to the
    unparser) at the level `eval` mode expects, **and the tree that derivation builds is `e`**:
    same operators, grouping, operand and argument order, argument kinds, subscript and slice
    shapes, comprehension clauses, lambda signatures, f-string fields, string contents.
    The induction goes over all twelve mutually recursive functions of the unparser; parentheses
    are justified by `table_sound` (regenerated precedences), terminals by the regenerated
    operator tables, string bodies by the decoding lemmas of Unparse/StrLit.lean (what C04 states).
    What the statement leaves to the correspondence check: that the grammar is unambiguous (so
    that *the* parse is this derivation - CPython's PEG parser is deterministic) and lexical
    adjacency (tokens vs `tokenize` of the real text). -/
theorem unparse_derives (e : Expr) (h : wfE e) : D Lv.expression (unparseTop e) e :=
  unparseTop_D e h

/-- the same at every child position: whatever the enclosing quote, a well-formed child rendered
    into slot `s` stands at the level the grammar has there -/
theorem unparse_derives_at (s : Slot) (hs : s.exprSlot = true) (oq : Quote) (e : Expr) (h : wfE e) :
    D (slotLv s) (wrap s (kindOf e) (unparse oq e)) e :=
  slot_D s hs h (unparse_D oq e h)

/-- the executable well-formedness test the driver evaluates on every corpus tree is sound -/
theorem wf_decidable_sound (e : Expr) (h : wfEB e = true) : wfE e := wfEB_sound e h

/-- non-vacuity: `(a + b) * -c ** d if not x else [*y, f(k=1)][1:2, 3]`-like tree is well-formed -/
example : wfE (.ifExp (.unaryOp .not_ (.name "x"))
    (.binOp (.binOp (.name "a") .add (.name "b")) .mult (.unaryOp .uSub (.binOp (.name "c") .pow (.name "d"))))
    (.subscript (.list [.starred (.name "y"), .call (.name "f") [] [.mk (some "k") (.const (.int 1))]])
      (.tuple [.slice (some (.const (.int 1))) (some (.const (.int 2))) none, .const (.int 3)]))) :=
  wf_decidable_sound _ (by simp [wfEB, wfOB, wfEltsB, wfKwsB, wfSliceB, wfSliceEltsB, wfCB, isSlice])

end OlVerif.C03
