import OlVerif.Order.Proof
import OlVerif.Sem.Module
import OlVerif.Sem.Decide
namespace OlVerif.C01

/-- the arguments of a chain of calls `f(a0)(a1)...(an)`, in evaluation order -/
def chainArgs : Expr → List Expr
  | .call f [a] [] => chainArgs f ++ [a]
  | _ => []

theorem chainArgs_foldl (es : List Expr) (acc : Expr) :
    chainArgs (es.foldl (fun acc x => .call acc [x] []) acc) = chainArgs acc ++ es := by
  induction es generalizing acc with
  | nil => simp
  | cons e es ih => simp [List.foldl, ih, chainArgs]

/-- **Every lowered statement is evaluated exactly once, in order, by the chain-call wrapper**:
    the wrapper is the call chain `runner(e0)(e1)...(en)` whose arguments are exactly the
    statement expressions, none dropped, duplicated or reordered. -/
theorem chain_call_keeps_all (e : Expr) (es : List Expr) :
    chainArgs (chainCallWrapper (e :: es)) = e :: es := by
  simp [chainCallWrapper, chainArgs_foldl, chainArgs, chainRunner]

/-- the list wrapper is the list display of exactly the statement expressions -/
theorem list_keeps_all (es : List Expr) : listWrapper es = .list es := rfl


/-- the same in the evaluation-order model (M-ORDER): whichever wrapper is configured, evaluating the
    one expression evaluates the statement expressions in order, each once (for every oracle) -/
theorem wrapper_evaluates_in_order (ρ : Expr → Bool) (cfg : Cfg) (es : List Expr) :
    tr ρ (wrapExprs cfg es) = trL ρ es :=
  tr_wrapExprs ρ cfg es

/-- **Straight-line programs keep their observable effects, in order.**  For a module made of
    assignments (any chain of targets, any nesting of patterns), annotated and augmented assignments,
    expression statements and function definitions whose subexpressions are effectful probes, the
    converted expression performs every effect of the program exactly once and in the order the
    script performs them (C07.program_order); control flow around such statements is C05's
    `lower_correct_module` / `lower_correct_function`. -/
theorem straight_line_effects (ρ : Expr → Bool) (cfg : Cfg) (root : SymScope) (ps : List PStmt)
    (hok : ∀ p ∈ ps, p.ok) (e : Expr) (h : lowerFull cfg root (ps.map PStmt.toStmt) = .ok e) :
    tr ρ e = PStmt.orders ps :=
  program_order ρ cfg root ps hok e h


/-! ### value-level semantics (M-EVAL) -/
open OlVerif.Sem in
/-- **Module code of the fragment means the same after conversion, for every world.**  Take any user
    state and value types, any meaning of the expression forms M-EVAL does not fix (calls, operators,
    lambdas, comprehensions, ... - `W.eval`), any meaning of the primitive operations (binding a
    global name, attribute and item access, the in-place operators) and of the truth test of user
    values (`W.truthy`, which may run user code and may fail); a non-empty list is true, and taking
    the truth value of an object again right away repeats the answer and changes nothing (`Lawful`); indexing, slicing and iterating
    a tuple built from items give the items (`LawfulSeq`).  For a module made of expression statements, `pass`, `global`, assignments
    with any number of targets - names, attributes, subscripts, tuple / list patterns of such targets
    with at most one starred item, nested to any depth -, augmented assignments on name / attribute / subscript targets
    and `if` / `elif` / `else` and `for` ... `else` (without break / continue) over such statements at any
    nesting, whose expressions do not mention
    `__ol_` names: whenever the script runs from user state `u` to `u'`, the converted expression
    evaluates from `u` to `u'` - under both wrappers and both if-styles, with the helper variables it
    creates (`t'`) kept apart from the user state.  In particular the truth value of a statement's
    value is never taken (it may be undefined), that of a condition only where the script takes
    it, possibly again right away (under `short_circuit`; KF-D61b is the world where that shows), and an
    iterator is advanced exactly as the `for` statement advances it.  `while` is the next theorem; break / continue / return are C05's (trace level);
    functions, classes and imports are not covered at value level. -/
theorem module_straightline_semantics {U V : Type} (W : World U V) (hW : Lawful W) (hS : LawfulSeq W) (cfg : Cfg) (root : SymScope)
    (body : List Stmt) (hs : ∀ s ∈ body, SimpleS false s) (e : Expr) (h : lowerFull cfg root body = .ok e) {u u' : U}
    (hx : ExecB W body u u') : ∃ v t', Ev W e u [] v u' t' :=
  module_sim W hW hS cfg root body hs e h hx

open OlVerif.Sem in
/-- **The same with `while`** (with `else`, without break / continue; the test free of assignment expressions,
    which CPython refuses where the lowering puts it: KF-D16).  Lowering a `while` asks for the helper import
    `itertools := __import__('itertools')` in front of the program - a name the property allows the converted
    program to add; its effect is not modelled (the rule for the takewhile comprehension assumes that
    `itertools` names the module): the converted expression is the wrapper around the lowered statements,
    possibly preceded by that one import, and the lowered statements take the user state where the script
    takes it. -/
theorem module_with_while_semantics {U V : Type} (W : World U V) (hW : Lawful W) (hS : LawfulSeq W) (cfg : Cfg) (root : SymScope)
    (body : List Stmt) (hs : ∀ s ∈ body, SimpleS true s) (e : Expr) (h : lowerFull cfg root body = .ok e) {u u' : U}
    (hx : ExecB W body u u') :
    ∃ b t', (e = wrapExprs cfg b ∨ e = wrapExprs cfg (itertoolsImport :: b)) ∧ Seq W b u [] u' t' :=
  module_sim_while W hW hS cfg root body hs e h hx

open OlVerif.Sem in
/-- the hypothesis is decidable: the correspondence check evaluates it on real programs -/
theorem fragment_decidable_sound (body : List Stmt) (h : simpleModuleB body = true) : ∀ s ∈ body, SimpleS false s :=
  simpleModuleB_sound body h

open OlVerif.Sem in
/-- an expression free of helper names neither reads nor writes helper variables (proved, not assumed) -/
theorem helper_variables_are_invisible {U V : Type} (W : World U V) {e : Expr} {u u' : U} {t t' : T V} {v : V}
    (h : Ev W e u t v u' t') (hc : Clean e) : t' = t ∧ ∀ t2 : T V, Ev W e u t2 v u' t2 :=
  frame W h hc

/-- at module level the expression transformer is the identity -/
theorem module_level_expressions_unchanged (n : Nsp) (hn : n.kind = .module) (b : List String) (e e' : Expr)
    (h : transf n b e = .ok e') : e' = e :=
  transf_module_id n hn b e e' h

namespace Ex
open OlVerif.Sem
/-- non-vacuity: integers and sequences, globals as an association list, `+=` on integers, C-like truth -/
inductive PV
  | int (n : Int)
  | seq (vs : List PV)

def evalNames (u : List (String × PV)) : List Expr → Option (List PV)
  | [] => some []
  | .name x :: es => do
      let v ← u.lookup x
      let vs ← evalNames u es
      pure (v :: vs)
  | _ => none

def decodeInt : Expr → Option Int
  | .const (.int n) => some n
  | .unaryOp .uSub (.const (.int n)) => some (-n)
  | _ => none

theorem decodeInt_intConstant (h : Int) : decodeInt (intConstant h) = some h := by
  unfold intConstant
  split <;> simp [decodeInt]

def W : World (List (String × PV)) PV where
  eval := fun e u => match e with
    | .name x => (u.lookup x).map (·, u)
    | .tuple es => (evalNames u es).map (PV.seq ·, u)
    | _ => none
  const := fun c => match c with | .int n => .int n | _ => .int 0
  store := fun x v u => (x, v) :: u
  getattr := fun _ _ _ => none
  setattr := fun _ _ _ _ => none
  getitem := fun o i u => match o, i with
    | .seq vs, .int k => (pyIndexG vs k).map (·, u)
    | _, _ => none
  setitem := fun _ _ _ _ => none
  iop := fun op a b u => match op, a, b with | .add, .int x, .int y => some (.int (x + y), u) | _, _, _ => none
  listOf := .seq
  noneV := .int 0
  runner := .int 0
  truthy := fun v u => match v with | .int n => some (decide (n ≠ 0), u) | .seq vs => some (!vs.isEmpty, u)
  iter := fun v u => match v with | .seq vs => some (vs, u) | _ => none
  tupleOf := .seq
  getiter := fun v u => some (v, u)
  next := fun _ u => some (none, u)
  getslice := fun o a b c u => match o, a, c with
    | .seq vs, some (.const (.int lo)), none =>
      (match b with
       | none => some (.seq (pySliceG vs lo.toNat none), u)
       | some e => (decodeInt e).map fun h => (PV.seq (pySliceG vs lo.toNat (some h)), u))
    | _, _, _ => none

theorem W_lawful : Lawful W where
  list := fun _ _ _ => rfl
  retest := by
    intro v u u' b h
    cases v <;> simp only [W, Option.some.injEq, Prod.mk.injEq] at h ⊢ <;> exact ⟨h.1, trivial⟩

theorem W_lawfulSeq : LawfulSeq W where
  index := by
    intro items i v u h
    show (pyIndexG items i).map (·, u) = _
    rw [h]; rfl
  slice := by
    intro items lo hi u
    cases hi with
    | none => rfl
    | some h =>
      show (decodeInt (intConstant h)).map _ = _
      rw [decodeInt_intConstant]; rfl
  iter := fun _ _ => rfl

/-- `x = 1` / `a, *b = x, x, x` / `if a: x += 2` / `else: pass` / `for y, z in a: pass` / `else: pass`
    (this small world's iterators are empty; the theorem is about every world) -/
def prog : List Stmt :=
  [.assign [.name "x"] (.const (.int 1)),
   .assign [.tuple [.name "a", .starred (.name "b")]] (.tuple [.name "x", .name "x", .name "x"]),
   .if_ (.name "a") [.augAssign (.name "x") .add (.const (.int 2))] [.pass_],
   .for_ (.tuple [.name "y", .name "z"]) (.name "a") [.pass_] [.pass_]]

theorem prog_simple : ∀ s ∈ prog, SimpleS false s := fragment_decidable_sound prog (by decide)

def final : List (String × PV) := [("x", .int 3), ("b", .seq [.int 1, .int 1]), ("a", .int 1), ("x", .int 1)]

theorem prog_runs : ExecB W prog [] final :=
  .cons (.assign _ _ (.const _ _ _) (.cons (.name "x" _ _ (by decide)) (.nil _ _)))
    (.cons (.assign _ _ (.user _ _ (by decide) rfl)
        (.cons (.tuple _ (items := [.int 1, .int 1, .int 1]) (vals := [.int 1, .seq [.int 1, .int 1]]) rfl (by simp [pyValuesG, starIndex, Expr.isStarred, W])
          (.cons (.name "a" _ _ (by decide)) (.cons (.starred _ (.name "b" _ _ (by decide))) (.nil _)))) (.nil _ _)))
      (.cons (.ifTrue _ _ _ (.user _ _ (by decide) rfl) rfl
        (.cons (.augName "x" .add _ (by decide) (.user _ _ (by decide) rfl) (.const _ _ _) rfl) (.nil _)))
        (.cons (.for_ _ _ _ _ (.user _ _ (by decide) rfl) rfl (.done _ _ _ rfl) (.cons (.pass _) (.nil _))) (.nil _))))

example : ∃ e, lowerFull { ifStyle := .shortCircuit } default prog = .ok e ∧ ∃ v t', Ev W e [] [] v final t' :=
  ⟨_, rfl, module_straightline_semantics W W_lawful W_lawfulSeq { ifStyle := .shortCircuit } default prog prog_simple _ rfl prog_runs⟩

/-- `x = 1` / `while x: x += -1` / `else: pass` -/
def progW : List Stmt :=
  [.assign [.name "x"] (.const (.int 1)), .while_ (.name "x") [.augAssign (.name "x") .add (.const (.int (-1)))] [.pass_]]

theorem progW_runs : ExecB W progW [] [("x", .int 0), ("x", .int 1)] :=
  .cons (.assign _ _ (.const _ _ _) (.cons (.name "x" _ _ (by decide)) (.nil _ _)))
    (.cons (.while_ _ _ _
        (.step _ _ (.user _ _ (by decide) rfl) rfl
          (.cons (.augName "x" .add _ (by decide) (.user _ _ (by decide) rfl) (.const _ _ _) rfl) (.nil _))
          (.done _ _ (.user _ _ (by decide) rfl) rfl))
        (.cons (.pass _) (.nil _))) (.nil _))

example : ∃ e, lowerFull {} default progW = .ok e ∧
    ∃ b t', (e = wrapExprs {} b ∨ e = wrapExprs {} (itertoolsImport :: b)) ∧ Seq W b [] [] [("x", .int 0), ("x", .int 1)] t' :=
  ⟨_, rfl, module_with_while_semantics W W_lawful W_lawfulSeq {} default progW (simpleModuleWB_sound progW (by decide)) _ rfl progW_runs⟩
end Ex

end OlVerif.C01
