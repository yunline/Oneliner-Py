import OlVerif.Lower.Lowers
import OlVerif.Lookup
/-
  C12 -- the member protocol of the class lowering.  A class body is a sequence of stores into a
  namespace; the emitted code stores into a dict (`__ol_classnsp_*`) and then copies
  `dict.items()` onto the class with `setattr`.  Partial by nature: what `type.__new__`,
  `__prepare__`, `__set_name__` and `super()` do at run time is CPython behaviour observed by
  the check, not modelled.
-/
namespace OlVerif.C12

abbrev Ns := List (String × Nat)      -- an insertion-ordered mapping (Python dict), values abstract

/-- `d[k] = v` on an insertion-ordered dict: overwrite in place, or append -/
def dictSet : Ns → String → Nat → Ns
  | [], k, v => [(k, v)]
  | (k', v') :: rest, k, v => if k' = k then (k', v) :: rest else (k', v') :: dictSet rest k v

def runBody (ops : List (String × Nat)) : Ns := ops.foldl (fun d (k, v) => dictSet d k v) []

/-- `[setattr(C, k, v) for k, v in d.items()]` starting from the attributes the class already has -/
def copyOnto (attrs : Ns) (d : Ns) : Ns := d.foldl (fun a (k, v) => dictSet a k v) attrs

/-- `dictSet` is a point update of `lookup` -/
theorem lookup_dictSet (d : Ns) (k k2 : String) (v : Nat) :
    (dictSet d k v).lookup k2 = if k2 = k then some v else d.lookup k2 := by
  induction d with
  | nil => rw [dictSet, lookup_cons_ite]
  | cons p rest ih =>
    obtain ⟨k', v'⟩ := p
    rw [dictSet]
    split <;> rename_i h
    · subst h; rw [lookup_cons_ite, lookup_cons_ite]; split <;> rfl
    · rw [lookup_cons_ite, lookup_cons_ite, ih]
      split <;> rename_i h2
      · subst h2; rw [if_neg h]
      · rfl

theorem dictSet_lookup_self (d : Ns) (k : String) (v : Nat) : (dictSet d k v).lookup k = some v := by
  rw [lookup_dictSet, if_pos rfl]

theorem dictSet_lookup_other (d : Ns) (k k2 : String) (v : Nat) (h : k2 ≠ k) :
    (dictSet d k v).lookup k2 = d.lookup k2 := by
  rw [lookup_dictSet, if_neg h]

/-- a run of stores read back: the last store to `k` wins, else what was there before -/
theorem lookup_foldl_dictSet (ops : List (String × Nat)) (a : Ns) (k : String) :
    (ops.foldl (fun d (p : String × Nat) => dictSet d p.1 p.2) a).lookup k = (ops.reverse.lookup k).or (a.lookup k) := by
  induction ops generalizing a with
  | nil => rfl
  | cons p rest ih =>
    obtain ⟨k', v'⟩ := p
    rw [List.foldl_cons, ih, lookup_dictSet, List.reverse_cons, List.lookup_append, lookup_cons_ite]
    cases rest.reverse.lookup k <;> split <;> rfl

/-- copying a dict onto an empty class gives the class exactly the dict's bindings:
    every member name maps to its last stored value -/
theorem copyOnto_lookup (d attrs : Ns) (k : String) :
    (copyOnto attrs d).lookup k = match d.reverse.lookup k with
      | some v => some v
      | none => attrs.lookup k := by
  rw [copyOnto, lookup_foldl_dictSet]
  cases d.reverse.lookup k <;> rfl

/-- **Members**: after the `setattr` loop a fresh class has, for every name, the value the dict filled by
    the class body holds under that name (what Python's own class namespace would hold). -/
theorem members (ops : List (String × Nat)) (k : String) :
    (copyOnto [] (runBody ops)).lookup k = (runBody ops).reverse.lookup k := by
  rw [copyOnto_lookup]
  cases (runBody ops).reverse.lookup k <;> rfl


/-! ### the shape of a lowered class statement (M-LOWER) -/

/-- **Class statement = create, load, fill (, decorate).**  Whenever a class statement is lowered:
    (1) the first emitted expression binds the class name - through the namespace of the scope the
    statement stands in - to a call of the metaclass (the last `metaclass=` keyword, else `type`)
    with the class name, the tuple of the transformed bases, an empty namespace and the remaining
    keywords in their order; (2) then the loader lambda, (3) then the copy loop; (4) with decorators,
    one more store of the class name.  Nothing else is emitted. -/
theorem class_shape (cx : Ctx) (name : String) (bases : List Expr) (kws : List Keyword) (body : List Stmt)
    (decos : List Expr) (lineno : Nat) (st : St) (es : List Expr) (st' : St)
    (h : lowerStmt cx (.classDef name bases kws body decos lineno) st = .ok (es, st')) :
    ∃ bases' metaE kws' create load fill,
      transfList cx.nsp [] bases = .ok bases' ∧ classKeywords cx.nsp kws = .ok (metaE, kws') ∧
      cx.nsp.getAssign name (.call (metaE.getD (.name "type")) [Expr.str name, .tuple bases', .dict []] kws') = .ok create ∧
      ((decos.isEmpty = true ∧ es = [create, load, fill]) ∨
       (decos.isEmpty = false ∧ ∃ again, es = [create, load, fill, again])) := by
  cases lowerStmt_graph _ _ _ _ _ h with
  | classDef _ hk hd hbs _ hcr _ =>
    have hk := (classKeywords_graph _ _ _ _).mpr hk
    cases hd with
    | none => exact ⟨_, _, _, _, _, _, hbs, hk, hcr, Or.inl ⟨rfl, rfl⟩⟩
    | some _ _ hne => exact ⟨_, _, _, _, _, _, hbs, hk, hcr, Or.inr ⟨hne, _, rfl⟩⟩

/-- a member stored in a class body goes to the class dictionary (unless the name is declared
    global or lives in an enclosing function's dictionary), and is read back from it *at class level*
    (`bound = []`: not inside a lambda / comprehension) - whether or not some lambda or generator
    expression of the body reads the same name as a global.  (Before FIX-D70 this needed the extra
    hypothesis `x ∉ n.globalsInComp`: the hypothesis the proof asked for was the defect.) -/
theorem member_store_load (n : Nsp) (x : String) (v : Expr) (i : SymInfo) (hk : n.kind = .class_)
    (hs : n.sym.lookup x = some i) (hg : i.isDeclaredGlobal = false) (hgl : i.isGlobal = false)
    (ho : n.outerMap.lookup x = none) (hcl : x ≠ "__class__") :
    n.getAssign x v = .ok (dictSetitem n.dictName x v) ∧ n.getLoad [] x = .ok (dictLoad n.dictName x) := by
  simp [Nsp.getAssign, Nsp.getLoad, hk, hs, hg, hgl, ho, hcl]

/-- inside a lambda / comprehension of a class body (`bound` starts with the mark) a name that those inner
    scopes read as a global, and that none of them binds, is the plain global name: the class scope is skipped -/
theorem inner_scope_skips_class (n : Nsp) (x : String) (bound : List String) (hk : n.kind = .class_)
    (hb : (compMark :: bound).contains x = false) (hc : x ∈ n.globalsInComp) :
    n.getLoad (compMark :: bound) x = .ok (.name x) := by
  simp only [List.contains_eq_mem, decide_eq_false_iff_not] at hb
  simp [Nsp.getLoad, hk, hb, hc]

/-- the last `metaclass=` keyword wins and is removed from the keywords passed on; the other
    keywords keep their order -/
theorem metaclass_keyword (n : Nsp) (v : Expr) (ks : List Keyword) (m : Option Expr) (rest : List Keyword)
    (h : classKeywords n (.mk (some "metaclass") v :: ks) = .ok (m, rest)) :
    ∃ v' m0, transf n [] v = .ok v' ∧ classKeywords n ks = .ok (m0, rest) ∧ m = some (m0.getD v') := by
  simp only [classKeywords] at h
  obtain ⟨v', hv, h⟩ := bind_ok h
  obtain ⟨⟨m0, rest0⟩, hr, h⟩ := bind_ok h
  simp at h
  obtain ⟨rfl, rfl⟩ := h
  exact ⟨v', m0, hv, hr, rfl⟩

end OlVerif.C12
