/-
  C10 -- conversion is a pure function of (source, options): property theorems over M-API.
  The storage kind of option values is *probed on the real class on every run*
  (Gen/Config.lean: `storagePerInstance`); with shared storage these theorems are false and
  their proofs fail.
-/
import OlVerif.Api.Model

namespace OlVerif.C10

/-- T obligation: option values live on the object they were set on -/
theorem storage_is_per_instance : storagePerInstance = true ∧ setRefusesIllegal = true := by decide

theorem getElem?_append_single {α} (l : List α) (d : α) (i : Nat) :
    (l ++ [d])[i]? = if l.length = i then some d else l[i]? := by
  rw [List.getElem?_append]
  split
  · rw [if_neg (by omega)]
  · split
    · rename_i h; rw [h, Nat.sub_self]; rfl
    · rw [List.getElem?_singleton, if_neg (by omega), List.getElem?_eq_none (by omega)]

theorem apiRun_cons (s : ApiState) (op : ApiOp) (ops : List ApiOp) :
    (apiRun s (op :: ops)).1 = (apiRun (apiStep s op).1 ops).1 := by
  simp [apiRun]

/-- one step of the implementation model agrees with one step of the specification -/
theorem step_objs (s : ApiState) (op : ApiOp) (i : Nat) :
    (apiStep s op).1.objs.length = (specStep i op s.objs.length (s.objs[i]?)).1 ∧
    (apiStep s op).1.objs[i]? = (specStep i op s.objs.length (s.objs[i]?)).2 := by
  have hp := storage_is_per_instance.1
  cases op with
  | new =>
    simp only [apiStep, specStep, ApiState.defaults, hp, ↓reduceIte, List.length_append, List.length_cons,
      List.length_nil, Nat.zero_add, true_and]
    exact getElem?_append_single _ _ _
  | set j name value =>
    cases hj : s.objs[j]? with
    | none =>
      simp only [apiStep, specStep, hj, true_and]
      by_cases hji : j = i
      · subst hji; simp [hj]
      · simp [hji]
    | some o =>
      have hlt : j < s.objs.length := (List.getElem?_eq_some_iff.mp hj).1
      by_cases hl : optLegal name value = true
      · simp only [apiStep, specStep, hj, hl, Bool.not_true, Bool.false_eq_true, ↓reduceIte, hp, List.length_set,
          and_true, true_and]
        by_cases hji : j = i
        · subst hji
          have ho : s.objs[j] = o := (List.getElem?_eq_some_iff.mp hj).2
          simp [hlt, ho]
        · simp [hji, List.getElem?_set_ne hji]
      · simp [apiStep, specStep, hj, hl]
  | convert p j =>
    simp only [apiStep, specStep]
    cases s.read j <;> simp
  | convertDefault p => simp [apiStep, specStep]
  | reseed r => simp [apiStep, specStep]

/-- the invariant, generalised over the starting state: the store maps each object to its own
    last settings -/
theorem run_objs (ops : List ApiOp) (s : ApiState) (i : Nat) :
    (apiRun s ops).1.objs[i]? = ownSettings i ops s.objs.length (s.objs[i]?) := by
  induction ops generalizing s with
  | nil => simp [apiRun, ownSettings]
  | cons op ops ih =>
    rw [apiRun_cons, ih, ownSettings, (step_objs s op i).1, (step_objs s op i).2]

/-- **Purity.**  After *any* history of API actions - other objects created, options set on
    them, other programs converted, the random generator reseeded - converting program `p` with
    object `i` yields the text for exactly `i`'s own settings (defaults plus the legal `set`s
    addressed to `i`), and nothing else of the history. -/
theorem pure (ops : List ApiOp) (p i : Nat) :
    (apiStep (apiRun {} ops).1 (.convert p i)).2 =
      match ownSettings i ops 0 none with
      | some o => .text p o
      | none => .noSuchObject := by
  have h : (apiRun {} ops).1.objs[i]? = ownSettings i ops 0 none := run_objs ops {} i
  simp only [apiStep, ApiState.read, storage_is_per_instance.1, ↓reduceIte, h]
  cases ownSettings i ops 0 none <;> rfl

/-- in whatever state: the history plays no part -/
theorem convertDefault_out (s : ApiState) (p : Nat) : (apiStep s (.convertDefault p)).2 = .text p defaultOpts := by
  simp [apiStep, ApiState.defaults, storage_is_per_instance.1]

/-- **Defaults.**  A call that passes no options uses the default values, whatever was done to
    option objects before. -/
theorem default (ops : List ApiOp) (p : Nat) :
    (apiStep (apiRun {} ops).1 (.convertDefault p)).2 = .text p defaultOpts := convertDefault_out _ p

/-- non-vacuity: a history in which another object is modified between the creation and the
    use of object 0 -/
example : (apiStep (apiRun {} [.new, .new, .set 1 "unparser" "oneliner", .reseed 3, .convertDefault 7]).1
    (.convert 5 0)).2 = .text 5 defaultOpts := by decide

end OlVerif.C10
