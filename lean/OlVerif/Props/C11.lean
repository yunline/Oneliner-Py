/-
  C11 -- functions keep their signature.
-/
import OlVerif.Lower.Lowers
import OlVerif.Lower.WfOut

namespace OlVerif.C11

theorem transfList_length (n : Nsp) (b : List String) (es es' : List Expr)
    (h : transfList n b es = .ok es') : es'.length = es.length :=
  transfList_len n b es es' h

/-- which keyword-only parameters have a default is preserved (positions of the `None` holes) -/
theorem transfOptList_shape (n : Nsp) (b : List String) (ds ds' : List (Option Expr))
    (h : transfOptList n b ds = .ok ds') : ds'.map Option.isSome = ds.map Option.isSome :=
  ((transf_wf_cases n).opts h).2

/-- **The copy of the parameter list loses nothing but annotations**: the emitted lambda has the
    same positional-only, positional-or-keyword and keyword-only parameter names in the same
    order, the same `*args` / `**kwargs`, as many positional defaults (so they attach to the same
    parameters), and a keyword-only default exactly where the source has one. -/
theorem sig (n : Nsp) (po as : List String) (va : Option String) (ko : List String)
    (kd : List (Option Expr)) (kw : Option String) (ds : List Expr) (a' : Arguments)
    (h : lowerFunctionHead n (.mk po as va ko kd kw ds) = .ok a') :
    ∃ kd' ds', a' = .mk po as va ko kd' kw ds' ∧ ds'.length = ds.length ∧
      kd'.map Option.isSome = kd.map Option.isSome := by
  obtain ⟨ds', kd', hds, hkd, rfl⟩ := lowerFunctionHead_ok h
  exact ⟨kd', ds', rfl, transfList_length _ _ _ _ hds, transfOptList_shape _ _ _ _ hkd⟩

/-- **Decorators nest in source order**: the lowered form of `@d1 @d2 … @dk` around a function is
    `d1'(d2'(… dk'(f)))` with each `di'` the decorator expression transformed in the defining namespace - the last
    decorator is applied first, and (function position before argument, M-ORDER) `d1'` is evaluated first. -/
theorem decorators_nest (n : Nsp) : ∀ (ds : List Expr) (f r : Expr), applyDecorators n ds f = .ok r →
    ∃ ds', transfList n [] ds = .ok ds' ∧ r = ds'.foldr (fun d acc => Expr.call d [acc] []) f :=
  applyDecorators_ok n

/-- **A function definition lowers to one binding**: the name is bound, through the namespace of the scope the
    `def` stands in, to the decorators applied around a lambda whose parameter list is the one of `sig` and whose
    body is `[…, return value][-1]`; the implicit-classmethod hooks get their wrapper outside the decorators. -/
theorem def_shape (cx : Ctx) (name : String) (args : Arguments) (body : List Stmt) (decorators : List Expr) (lineno : Nat)
    (st st' : St) (es : List Expr) (h : lowerStmt cx (.functionDef name args body decorators lineno) st = .ok (es, st')) :
    ∃ inner args' items lam lam' e, findChild cx.nsp name lineno .function = .ok inner ∧
      lowerFunctionHead cx.nsp args = .ok args' ∧
      applyDecorators cx.nsp decorators (.lambda args' (.subscript (listWrapper (items ++ [.name inner.retvName])) Expr.neg1)) = .ok lam ∧
      (lam' = lam ∨ lam' = hookWrap lam) ∧ cx.nsp.getAssign name lam' = .ok e ∧ es = [e] := by
  cases lowerStmt_graph _ _ _ _ _ h with
  | functionDef _ hds hkd hdec hin he =>
    exact ⟨_, _, _, _, _, _, hin, lowerFunctionHead_eq hds hkd, applyDecorators_decorate _ _ _ _ hdec, hookIf_cases .., he, rfl⟩

end OlVerif.C11
