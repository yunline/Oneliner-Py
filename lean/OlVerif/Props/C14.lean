/-
  C14 -- imports bind the same objects to the same names, importing the same modules in the
  same order.
-/
import OlVerif.Import.Seq
import OlVerif.Lower.Lowers

namespace OlVerif.C14

/-- every form of `import`, dotted or not, with or without `as` (on the empty path, which no statement has,
    both sides bind `""` to `.module []`) -/
theorem olImport_eq (st : ImpSt) (name : ModName) (asname : Option String) :
    olImport st name asname = pyImport st name asname := by
  cases asname with
  | some a => rfl
  | none =>
    match name with
    | [] | [_] | _ :: _ :: _ => rfl

/-- `import a.b.c as x` -/
theorem import_as (st : ImpSt) (name : ModName) (a : String) :
    olImport st name (some a) = pyImport st name (some a) := olImport_eq ..

/-- `import a` (undotted, no alias) -/
theorem import_plain (st : ImpSt) (a : String) :
    olImport st [a] none = pyImport st [a] none := olImport_eq ..

/-- `import a.b.c` (dotted, no alias): the name bound is the first component and the object is
    the top-level package, while the whole chain is imported -/
theorem import_dotted (st : ImpSt) (a b : String) (rest : ModName) :
    olImport st (a :: b :: rest) none = pyImport st (a :: b :: rest) none := olImport_eq ..

/-- all statement forms of `import` at once -/
theorem import_stmt (st : ImpSt) (name : ModName) (asname : Option String) (h : name ≠ []) :
    olImport st name asname = pyImport st name asname := olImport_eq ..

/-- `from m import n [as x]`, for attributes and for not-yet-imported submodules -/
theorem from_import (sub : IsSubmodule) (st : ImpSt) (m : ModName) (n : String) (asname : Option String) :
    olFromName sub st m n asname = pyFromName sub st m n asname := by
  simp only [olFromName, pyFromName]
  split <;> rfl

/-- the chain is imported once: loading is idempotent -/
theorem load_idem (st : ImpSt) (m : ModName) : (st.load m).load m = st.load m := by
  simp only [ImpSt.load]
  split <;> simp [*]

/-- non-vacuity: `import pk.sub.deep` on a fresh interpreter imports three modules in order and
    binds `pk` to the package -/
example : pyImport {} ["pk", "sub", "deep"] none =
    ({ loaded := [["pk"], ["pk", "sub"], ["pk", "sub", "deep"]] }, "pk", .module ["pk"]) := by decide

/-! ### whole import programs -/

theorem olStep_eq (sub : IsSubmodule) : olStep sub = pyStep sub := by
  funext s x
  cases x with
  | imp name a => simp only [olStep, pyStep, olImport_eq]
  | fromName m n a => simp only [olStep, pyStep, from_import]

theorem step_eq (sub : IsSubmodule) (s : ImpSt × ImpEnv) (x : ImpStep) (h : x.WF) : olStep sub s x = pyStep sub s x := by
  rw [olStep_eq]

/-- **any sequence of import statements**, from any import state and any environment: the emitted calls load the
    same modules in the same order and leave the same bindings (shadowing included) as the statements do -/
theorem import_program (sub : IsSubmodule) (s : ImpSt × ImpEnv) (p : List ImpStep) (h : ∀ x ∈ p, x.WF) :
    olRun sub s p = pyRun sub s p := by
  rw [olRun, olStep_eq, pyRun]

/-- the emitted calls never unload or reorder a module: what was loaded before stays a prefix of what is loaded
    after, and no module is loaded (its top-level code run) twice -/
theorem ol_step_loaded (sub : IsSubmodule) (s : ImpSt × ImpEnv) (x : ImpStep) :
    s.1.loaded <+: (olStep sub s x).1.loaded ∧ (s.1.loaded.Nodup → (olStep sub s x).1.loaded.Nodup) := by
  cases x with
  | imp name a =>
    simp only [olStep, olImport, builtinImportTop, importModule]
    split <;> exact ⟨importChain_prefix _ _ _, importChain_nodup _ _ _⟩
  | fromName m n a =>
    simp only [olStep, olFromName]
    split
    · exact ⟨load_prefix _ _, load_nodup _ _⟩
    · exact ⟨List.prefix_refl _, id⟩

/-- the same over any sequence of import steps -/
theorem ol_run_loaded (sub : IsSubmodule) (s : ImpSt × ImpEnv) (p : List ImpStep) :
    s.1.loaded <+: (olRun sub s p).1.loaded ∧ (s.1.loaded.Nodup → (olRun sub s p).1.loaded.Nodup) := by
  simp only [olRun]
  induction p generalizing s with
  | nil => exact ⟨List.prefix_refl _, id⟩
  | cons x rest ih =>
    simp only [List.foldl_cons]
    obtain ⟨h1, h2⟩ := ol_step_loaded sub s x
    obtain ⟨h3, h4⟩ := ih (olStep sub s x)
    exact ⟨List.IsPrefix.trans h1 h3, fun hn => h4 (h2 hn)⟩

/-- non-vacuity: `import pk.sub as s; from pk import sub, v; import pk.sub.deep` -/
example : olRun (fun m n => m == ["pk"] && n == "sub") ({}, [])
    [.imp ["pk", "sub"] (some "s"), .fromName ["pk"] "sub" none, .fromName ["pk"] "v" none, .imp ["pk", "sub", "deep"] none] =
    ({ loaded := [["pk"], ["pk", "sub"], ["pk", "sub", "deep"]] },
     [("pk", .module ["pk"]), ("v", .attr ["pk"] "v"), ("sub", .module ["pk", "sub"]), ("s", .module ["pk", "sub"])]) := by decide

/-! ### bridge: the lowering model emits what M-IMPORT reasons about -/

/-- `lowerImport` emits exactly one binding per alias, in source order, each binding `importPlan`'s name to
    `importPlan`'s call through the namespace of the scope the statement stands in -/
theorem lower_import_plan (n : Nsp) : ∀ (as : List Alias) (es : List Expr), lowerImport n as = .ok es →
    es.length = as.length ∧ ∀ p ∈ as.zip es, n.getAssign (importPlan p.1).1 (importPlan p.1).2 = .ok p.2 :=
  fun as es h => (lowerImport_graph n as es h).zip

/-- under the string facts, the text-level decision of the code is the path-level decision of M-IMPORT: the name
    bound is the one `olImport` binds, and the call emitted is the one `olImport` stands for -/
theorem plan_is_model (a : Alias) (h : a.dotOK = true) (st : ImpSt) :
    (importPlan a).1 = (olImport st a.modName a.asname).2.1 ∧ (importPlan a).2 = modelCall a.modName a.asname := by
  simp only [Alias.dotOK, Bool.and_eq_true, beq_iff_eq] at h
  obtain ⟨h1, h2⟩ := h
  unfold importPlan olImport modelCall
  rw [h1, h2]
  split <;> exact ⟨rfl, rfl⟩

theorem lower_from_names (n : Nsp) (tmp : String) : ∀ (as : List Alias) (es : List Expr),
    lowerImportFromNames n tmp as = .ok es →
    es.length = as.length ∧ (∀ a ∈ as, a.name ≠ "*") ∧
    ∀ p ∈ as.zip es, n.getAssign (p.1.asname.getD p.1.name) (.attribute (.name tmp) p.1.name) = .ok p.2 := by
  intro as es h
  have hg := lowerImportFromNames_graph n tmp as es h
  exact ⟨hg.zip.1, fun a ha => (hg.left a ha).elim fun _ he => by simpa using he.1, fun p hp => (hg.zip.2 p hp).2⟩

/-- `from m import a [as x], b, …` lowers to one `__import__(m, globals(), locals(), [all names], level)` bound to a
    fresh helper, followed by one binding per name, in source order, of `asname or name` to `helper.name`;
    `from m import *` is refused -/
theorem lower_from_plan (n : Nsp) (m : Option String) (names : List Alias) (level : Nat) (st st' : St) (es : List Expr)
    (h : lowerImportFrom n m names level st = .ok (es, st')) :
    ∃ rest, es = .namedExpr (st.fresh "mod").1 (.call (.name "__import__")
        [Expr.str (m.getD ""), .call (.name "globals") [] [], .call (.name "locals") [] [],
         .list (names.map fun a => Expr.str a.name), .const (.int level)] []) :: rest ∧
      st' = (st.fresh "mod").2 ∧ rest.length = names.length ∧ (∀ a ∈ names, a.name ≠ "*") ∧
      ∀ p ∈ names.zip rest, n.getAssign (p.1.asname.getD p.1.name) (.attribute (.name (st.fresh "mod").1) p.1.name) = .ok p.2 := by
  obtain ⟨rest, hr, rfl, rfl⟩ := lowerImportFrom_ok h
  obtain ⟨hl, hn, hz⟩ := lower_from_names n _ names rest hr
  exact ⟨rest, rfl, rfl, hl, hn, hz⟩

end OlVerif.C14
