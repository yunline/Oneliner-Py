import OlVerif.Lower.Binder
import OlVerif.Lower.Transf
namespace OlVerif.C06
/-- stores and loads of one name in one namespace use the same storage: a dict-stored name is
    read from the dict it is written to (function namespaces, no comprehension shadowing) -/
theorem load_store_same_dict_inner (n : Nsp) (name : String) (v : Expr) (s : SymInfo)
    (hk : n.kind = .function) (hs : n.sym.lookup name = some s) (hg : s.isDeclaredGlobal = false)
    (ho : n.outerMap.lookup name = none) (hi : name ∈ n.innerNonlocal) :
    n.getAssign name v = .ok (dictSetitem n.dictName name v) ∧ n.getLoad [] name = .ok (dictLoad n.dictName name) := by
  simp [Nsp.getAssign, Nsp.getLoad, hk, hs, hg, ho, hi]

theorem load_store_same_dict_outer (n : Nsp) (name d : String) (v : Expr) (s : SymInfo)
    (hk : n.kind = .function) (hs : n.sym.lookup name = some s) (hg : s.isDeclaredGlobal = false)
    (ho : n.outerMap.lookup name = some d) (hi : ¬ name ∈ n.innerNonlocal) :
    n.getAssign name v = .ok (dictSetitem d name v) ∧ n.getLoad [] name = .ok (dictLoad d name) := by
  simp [Nsp.getAssign, Nsp.getLoad, hk, hs, hg, ho, hi]

/-! ### captured variables live in the dictionary of the function CPython binds them in

The specification `pyBinder` and the condition `WalkOK` are those of Lower/Binder.lean. -/

/-- **A free / nonlocal name goes to CPython's binder.**  Every (name ↦ dictionary) decision of a
    namespace built under `stack` names the dictionary of the function scope CPython binds the
    name in - whatever lies in between (classes, functions that rebind it through `nonlocal`,
    functions that only pass it through), at any depth. -/
theorem free_name_goes_to_binder (s : SymScope) (stack : Stack) (sup : Supply) (n : Nsp) (cl : List Claim)
    (sup' : Supply) (h : buildNsp stack sup s = .ok (n, cl, sup')) (x d : String) (hx : (x, d) ∈ n.outerMap)
    (hw : WalkOK x stack) : pyBinder x stack = some d := by
  obtain ⟨p, hp⟩ := outerMap_spec s stack sup n cl sup' h (x, d) hx
  exact pyBinder_of_findOwner x stack hw d p hp

/-- ... and conversely the walk succeeds whenever CPython has a binder -/
theorem binder_is_found (x : String) (stack : Stack) (hw : WalkOK x stack) (d : String)
    (h : pyBinder x stack = some d) : ∃ p, findOwner x stack = .ok (d, p) :=
  findOwner_eq_pyBinder x stack hw d h

/-- **The binder knows.**  If any namespace below `n` keeps a name in `n`'s dictionary, `n` lists
    it among its dictionary-stored names, hence (by `load_store_same_dict_inner`) reads and writes
    it in the same dictionary: one variable, one storage. -/
theorem binder_knows (s : SymScope) (stack : Stack) (sup : Supply) (n : Nsp) (cl : List Claim) (sup' : Supply)
    (h : buildNsp stack sup s = .ok (n, cl, sup')) (x : String)
    (hx : (x, n.dictName) ∈ Nsp.allOuter.allOuterL n.children) : x ∈ n.innerNonlocal :=
  owner_knows s stack sup n cl sup' h (x, n.dictName) hx rfl

/-- **No free name is left behind.**  Every free / nonlocal name of a function scope - other than
    a method's implicit `__class__` cell - gets a dictionary decision, wherever it stands in the
    symbol table's order (in particular after `__class__`, when the method also calls zero-argument
    `super()`); by `free_name_goes_to_binder` the decision is CPython's. -/
theorem every_free_name_is_resolved (s : SymScope) (stack : Stack) (sup : Supply) (n : Nsp) (cl : List Claim)
    (sup' : Supply) (h : buildNsp stack sup s = .ok (n, cl, sup')) (hk : s.kind = .function) (x : String)
    (hx : x ∈ s.frees ++ s.nonlocals) (hc : x ≠ "__class__") : ∃ d, (x, d) ∈ n.outerMap :=
  outerMap_complete s stack sup n cl sup' h hk x hx hc

/-- **Dictionaries are never confused**: the dictionary of a namespace differs from that of every
    enclosing scope (the name supply is injective), so a name kept in an enclosing function's
    dictionary cannot be taken for one of the namespace's own. -/
theorem dictionary_is_new (s : SymScope) (stack : Stack) (sup : Supply) (n : Nsp) (cl : List Claim) (sup' : Supply)
    (h : buildNsp stack sup s = .ok (n, cl, sup'))
    (hst : ∀ e ∈ stack, EarlierName e.2.2 sup.next) : ∀ e ∈ stack, e.2.2 ≠ n.dictName :=
  dict_new s stack sup n cl sup' h hst

/-- non-vacuity: `def f0(): x = 0; def f1(): nonlocal x; x = 1; class K: def f2(): return x` -
    from f2's point of view CPython's binder is f0 (through the class and through f1, which rebinds
    x via nonlocal), and the walk condition holds -/
def exLoc : SymInfo :=
  { name := "x", isAssigned := true, isParameter := false, isGlobal := false, isDeclaredGlobal := false,
    isNonlocal := false, isFree := false, isLocal := true }
def exNl : SymInfo :=
  { name := "x", isAssigned := true, isParameter := false, isGlobal := false, isDeclaredGlobal := false,
    isNonlocal := true, isFree := true, isLocal := false }
def exStack : Stack :=
  [(.class_, .mk "K" .class_ 3 [] [] [] [] [] [], "dK"), (.function, .mk "f1" .function 2 [exNl] ["x"] ["x"] [] [] [], "d1"),
   (.function, .mk "f0" .function 1 [exLoc] [] [] [] [] [], "d0"), (.module, default, "")]

example : pyBinder "x" exStack = some "d0" ∧ WalkOK "x" exStack := by
  refine ⟨by simp [exStack, exLoc, exNl, pyBinder, SymScope.lookup, SymScope.symbols], ?_⟩
  simp [exStack, exLoc, exNl, WalkOK, SymScope.lookup, SymScope.symbols, SymInfo.owns]

/-- **The first iterable of a comprehension is resolved where the comprehension stands**: whatever the
    comprehension's own variables are called, the first iterable of the lowered comprehension is the result of
    transforming the source's first iterable with the names bound *outside* (Python evaluates it in the
    enclosing scope; false of the code before FIX-D71, where `[x for x in x]` read its own variable). -/
theorem first_iterable_outside (n : Nsp) (bound : List String) (elt : Expr) (t i : Expr) (ifs : List Expr) (a : Bool)
    (gs : List Comp) (r : Expr) (h : transf n bound (.listComp elt (.mk t i ifs a :: gs)) = .ok r) :
    ∃ elt' t' i' ifs' gs', r = .listComp elt' (.mk t' i' ifs' a :: gs') ∧ transf n bound i = .ok i' := by
  simp only [transf, transfComps, bind_eq_ok, pure_eq_ok] at h
  obtain ⟨_, _, elt', _, _, ⟨t', _, i', hi, ifs', _, gs', _, rfl⟩, rfl⟩ := h
  exact ⟨elt', t', i', ifs', gs', rfl, hi⟩

/-- the other iterables, the conditions and the element see the comprehension's variables: a variable of the
    comprehension read there stays the plain name -/
theorem comprehension_variable_shadows (n : Nsp) (bound : List String) (x : String) (hx : x ∈ bound) :
    n.getLoad bound x = .ok (.name x) := by
  unfold Nsp.getLoad
  cases n.kind <;> simp [hx]

/-- non-vacuity: in a class body (`x` a member), `[x for x in x]` reads the member for its iterable -/
example :
    transf (.mk .class_ (.mk "K" .class_ 1 [exLoc] [] [] [] [] []) "" "" "d" [] [] [] false false [] []) []
        (.listComp (.name "x") [.mk (.name "x") (.name "x") [] false])
      = .ok (.listComp (.name "x") [.mk (.name "x") (dictLoad "d" "x") [] false]) := by
  simp [transf, transfComps, transfTarget, transfList, compsTargetNames, compTargetNames, Nsp.getLoad, compMark,
    Nsp.kind, Nsp.sym, Nsp.dictName, Nsp.outerMap, Nsp.globalsInComp,
    SymScope.lookup, SymScope.symbols, exLoc, bind, Except.bind, pure, Except.pure]

/-- **An assignment expression inside a lambda stays the lambda's own**: wherever the lambda is written
    (function, class, module), with `bound` carrying the lambda mark the walrus is copied as it is - it is never
    routed to a dictionary of the enclosing scope (false of the code before FIX-D74). -/
theorem walrus_in_lambda_is_local (n : Nsp) (bound : List String) (t : String) (v r : Expr)
    (hm : lamMark ∈ bound) (h : transf n bound (.namedExpr t v) = .ok r) :
    ∃ v', r = .namedExpr t v' ∧ transf n bound v = .ok v' := by
  have hc : bound.contains lamMark = true := by simpa using hm
  simp only [transf, hc, if_true, bind_eq_ok, pure_eq_ok] at h
  obtain ⟨v', hv, rfl⟩ := h
  exact ⟨v', rfl, hv⟩

/-- ... and inside that lambda the name is read as the plain local, like a parameter: the body is transformed
    with the walrus targets of the body among the bound names -/
theorem lambda_body_binds_walrus_targets (n : Nsp) (bound : List String) (po as : List String) (va : Option String)
    (ko : List String) (kd : List (Option Expr)) (kw : Option String) (ds : List Expr) (body r : Expr)
    (h : transf n bound (.lambda (.mk po as va ko kd kw ds) body) = .ok r) :
    ∃ ds' kd' body', r = .lambda (.mk po as va ko kd' kw ds') body' ∧
      transf n (lamMark :: (Arguments.paramNames (.mk po as va ko kd kw ds) ++ walrusNames body ++ bound)) body = .ok body' ∧
      ∀ x ∈ walrusNames body,
        n.getLoad (lamMark :: (Arguments.paramNames (.mk po as va ko kd kw ds) ++ walrusNames body ++ bound)) x = .ok (.name x) := by
  simp only [transf, bind_eq_ok, pure_eq_ok] at h
  obtain ⟨ds', _, kd', _, body', hb, rfl⟩ := h
  exact ⟨ds', kd', body', rfl, hb, fun x hx => comprehension_variable_shadows n _ x (by simp [hx])⟩

/-- non-vacuity: `lambda: (y := 2)` in a function whose `y` lives in its dictionary keeps the walrus -/
example : transf (.mk .function (.mk "f" .function 1 [{ exLoc with name := "y" }] [] [] [] [] []) "" "" "d" ["y"] [] [] false false [] []) []
      (.lambda (.mk [] [] none [] [] none []) (.namedExpr "y" (.const (.int 2))))
    = .ok (.lambda (.mk [] [] none [] [] none []) (.namedExpr "y" (.const (.int 2)))) := by
  simp [transf, transfList, transfOptList, Arguments.paramNames, walrusNames, lamMark, bind, Except.bind, pure, Except.pure]

end OlVerif.C06
