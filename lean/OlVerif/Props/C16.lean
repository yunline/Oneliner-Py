/-
  C16 -- the command line writes exactly the API result and validates options first.
  `cliEffects` (the order of effects of `python -m oneliner`) and the kind of option-name check
  are read off `oneliner/__main__.py` on every run (Gen/Config.lean).
-/
import OlVerif.Api.Model
import OlVerif.Lookup

namespace OlVerif.C16

/-- T obligation: the option name is validated by membership in the option list (not `hasattr`,
    which also accepts `__doc__` or `config_names`) -/
theorem name_check_is_membership : cliNameCheckIsMembership = true := by decide

/-- T obligation: in the extracted order of effects, options are validated before the input is
    read and before the output file is opened; the conversion happens before the output is opened -/
theorem effects_order :
    cliEffects.idxOf .validateAndSetOptions < cliEffects.idxOf .openWrite ∧
    cliEffects.idxOf .deprecatedUnparser < cliEffects.idxOf .openWrite ∧
    cliEffects.idxOf .readInput < cliEffects.idxOf .openWrite ∧
    cliEffects.idxOf .convert < cliEffects.idxOf .openWrite := by decide

/-- **An unknown option name, a malformed `-C` argument or an illegal value aborts before any
    output file is created or truncated**: the file system is unchanged and nothing is printed. -/
theorem no_write_on_bad_option (a : CliArgs) (fs : Fs) (w : String)
    (h : cliOptions a.cOpts defaultOpts = .error w) :
    (cli a fs).fs = fs ∧ (cli a fs).exit = .error w ∧ (cli a fs).written = none ∧ (cli a fs).stdout = none := by
  simp [cli, cliEffects, cliRun, h]

/-- the same for an illegal value of the deprecated `--unparser` flag -/
theorem no_write_on_bad_unparser (a : CliArgs) (fs : Fs) (o : Opts) (v : String)
    (h1 : cliOptions a.cOpts defaultOpts = .ok o) (h2 : a.unparserFlag = some v)
    (h3 : optLegal "unparser" v = false) :
    (cli a fs).fs = fs ∧ (cli a fs).written = none ∧ (cli a fs).stdout = none := by
  simp [cli, cliEffects, cliRun, h1, h2, h3]

/-- a missing input file aborts before the output is touched -/
theorem no_write_on_missing_input (a : CliArgs) (fs : Fs) (o : Opts)
    (h1 : cliOptions a.cOpts defaultOpts = .ok o) (h2 : a.unparserFlag = none)
    (h3 : fs.lookup a.input = none) :
    (cli a fs).fs = fs ∧ (cli a fs).written = none := by
  simp [cli, cliEffects, cliRun, h1, h2, h3]

/-- **With valid options the output file receives exactly the text of the library call for the
    file's contents and the options given** (and nothing is printed); without `-o` the text is
    printed and no file is written. -/
theorem writes_api (a : CliArgs) (fs : Fs) (o : Opts) (src out : String)
    (h1 : cliOptions a.cOpts defaultOpts = .ok o) (h2 : a.unparserFlag = none)
    (h3 : fs.lookup a.input = some src) (h4 : a.output = some out) :
    (cli a fs).written = some (out, o) ∧ (cli a fs).stdout = none ∧ (cli a fs).exit = .ok := by
  simp [cli, cliEffects, cliRun, h1, h2, h3, h4]

theorem prints_api (a : CliArgs) (fs : Fs) (o : Opts) (src : String)
    (h1 : cliOptions a.cOpts defaultOpts = .ok o) (h2 : a.unparserFlag = none)
    (h3 : fs.lookup a.input = some src) (h4 : a.output = none) :
    (cli a fs).written = none ∧ (cli a fs).stdout = some (0, o) ∧ (cli a fs).fs = fs := by
  simp [cli, cliEffects, cliRun, h1, h2, h3, h4]

/-- `-C` arguments are checked against the option table: an option outside it is an error -/
theorem unknown_name_rejected (name value : String) (rest : List String) (o : Opts)
    (hsplit : (name ++ "=" ++ value).splitOn "=" = [name, value])
    (h : optKnown name = false) :
    ∃ w, cliOptions ((name ++ "=" ++ value) :: rest) o = .error w := by
  simp [cliOptions, hsplit, h]

/-- non-vacuity: the hypotheses of `writes_api` are met by a concrete invocation -/
example : (cli { input := "a.py", output := some "o.txt", cOpts := [] } [("a.py", "x=1")]).written =
    some ("o.txt", defaultOpts) := by
  simp [cli, cliEffects, cliRun, cliOptions, List.lookup]

theorem lookup_filter_ne (fs : Fs) (f out : String) (h : f ≠ out) :
    (fs.filter (·.1 != out)).lookup f = fs.lookup f := by
  induction fs with
  | nil => rfl
  | cons p rest ih =>
    obtain ⟨k, v⟩ := p
    rw [List.filter_cons, lookup_cons_ite]
    split
    · rw [lookup_cons_ite, ih]
    · rename_i hk
      have : k = out := by simpa using hk
      rw [ih, if_neg (this ▸ h)]

/-- effect by effect: each either stops, goes on with the same file system, or opens the `-o` file -/
theorem run_frame (a : CliArgs) (f : String) (hf : a.output ≠ some f) :
    ∀ (es : List CliEffect) (fs : Fs) (o : Opts), (cliRun a fs es o).fs.lookup f = fs.lookup f
  | [], fs, o => rfl
  | e :: es, fs, o => by
    have ih := run_frame a f hf es
    cases e <;> rw [cliRun]
    case parseArgs | convert => exact ih ..
    case validateAndSetOptions | readInput =>
      split
      · rfl
      · exact ih ..
    case deprecatedUnparser =>
      split
      · exact ih ..
      · split
        · exact ih ..
        · rfl
    case printResult => split <;> exact ih ..
    case openWrite =>
      split
      · exact ih ..
      · rename_i out hout
        have hne : f ≠ out := fun e => hf (e ▸ hout)
        show (cliRun a _ es o).fs.lookup f = _
        rw [ih, lookup_cons_ite, if_neg hne, lookup_filter_ne fs f out hne]

/-- **frame**: whatever the arguments and whatever happens (error or success), every file other than the `-o`
    target keeps its contents -/
theorem only_output_touched (a : CliArgs) (fs : Fs) (f : String) (hf : a.output ≠ some f) :
    (cli a fs).fs.lookup f = fs.lookup f := run_frame a f hf _ fs _

/-- the file system after a sequence of invocations -/
def cliSeq (fs : Fs) : List CliArgs → Fs
  | [] => fs
  | a :: as => cliSeq (cli a fs).fs as

/-- any sequence of invocations, failing or not, leaves a file that none of them names as `-o` as it was -/
theorem seq_frame (as : List CliArgs) (fs : Fs) (f : String) (h : ∀ a ∈ as, a.output ≠ some f) :
    (cliSeq fs as).lookup f = fs.lookup f := by
  induction as generalizing fs with
  | nil => rfl
  | cons a rest ih =>
    rw [cliSeq, ih _ (fun b hb => h b (List.mem_cons_of_mem _ hb)), only_output_touched a fs f (h a List.mem_cons_self)]

end OlVerif.C16
