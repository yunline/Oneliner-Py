import OlVerif.Unparse.OneLine
import OlVerif.Lower.WfOutStmt
import OlVerif.Unparse.DerivesProof
namespace OlVerif.C02

/-- `str.replace("\n", "")` as a function on code points -/
def dropNewlines : List Nat → List Nat
  | [] => []
  | c :: cs => if c = 10 then dropNewlines cs else c :: dropNewlines cs

/-- the default pipeline `ast.unparse(out).replace("\n", "")` never returns a line feed,
    whatever the standard unparser printed -/
theorem one_line_std (s : List Nat) : ∀ c ∈ dropNewlines s, c ≠ 10 := by
  induction s with
  | nil => exact List.forall_mem_nil _
  | cons c cs ih =>
    unfold dropNewlines
    split
    · exact ih
    · exact List.forall_mem_cons.2 ⟨‹_›, ih⟩

/-- **The custom unparser never writes a line break.**  For every expression tree whose leaves are
    clean (`okE`: identifiers and CPython's `repr` of numbers and bytes contain no LF/CR - text the
    unparser copies, not text it makes - and strings hold code points below 0x110000), every token
    of `expr_unparse`'s output is free of LF and CR: the escapes of string bodies (C04), the doubled
    braces of f-string parts, the operator spellings regenerated from the code, the punctuation. -/
theorem one_line_oneliner (e : Expr) (h : okE e) : ∀ t ∈ unparseTop e, ∀ c ∈ t.text, c ≠ 10 ∧ c ≠ 13 :=
  fun t ht => (cpsClean_iff _).mp (clean_unparseTop e h t ht)

/-- **Everything the unparser module can write of its own is free of line breaks**: every string
    constant of `expr_unparse.py` (docstrings excluded) and every entry of its operator tables,
    regenerated from the source on every run - the separators and blanks that the token model
    leaves out are in this table. -/
theorem own_text_one_line : ∀ s ∈ unparserTexts, StrClean s := by decide +kernel

/-- integer literals are clean leaves, whatever their size or sign -/
theorem int_leaf_clean (n : Int) : okC (.int n) := by
  intro q
  simp only [unparseConst]
  split
  · rename_i hneg
    obtain ⟨m, hm⟩ : ∃ m : Nat, -n = (m : Int) := ⟨(-n).toNat, by omega⟩
    rw [hm]
    exact clean_cons.2 ⟨by decide, clean_cons.2 ⟨natRepr_clean m, clean_nil⟩⟩
  · rename_i hpos
    obtain ⟨m, hm⟩ : ∃ m : Nat, n = (m : Int) := ⟨n.toNat, by omega⟩
    rw [hm]
    exact clean_cons.2 ⟨natRepr_clean m, clean_nil⟩

/-- non-vacuity: an f-string holding a line feed, a brace and a quote, an attribute of a negative
    number, a lambda with defaults and a comprehension all meet the hypothesis -/
example : okE (.joinedStr [.const (.str [10, 123, 39, 13]),
              .formattedValue (.attribute (.const (.int (-3))) "real") (-1) none]) := by
  refine ⟨?_, ⟨⟨int_leaf_clean _, by decide⟩, trivial, ?_⟩, trivial⟩
  · intro c hc; simp at hc; omega
  · simp [convToks]; exact clean_nil


/-- **The converted program is a well-formed expression tree.**  Whenever the conversion succeeds
    on a program whose expressions are well-formed (`wfBlock`: every expression, target, default,
    decorator, base … of every statement, at any depth, is a tree the parser can produce), the
    tree it returns is well-formed (`wfE`): the transformer keeps shapes (`transf_wf_cases` in
    `Lower/WfOut.lean`, an instance of the induction principle `TransfCases` of `Lower/TransfInd.lean`
    over the transformer's 9 functions), every template the 18 statement kinds are lowered to is
    well-formed, both wrappers are (`Lower/WfOutStmt.lean`).  All configurations, all symbol tables. -/
theorem wf_output (cfg : Cfg) (root : SymScope) (body : List Stmt) (e : Expr)
    (h : lowerFull cfg root body = .ok e) (hw : wfBlock body) : wfE e :=
  lowerFull_wf cfg root body e h hw

/-- **The text written for the converted program is an expression of CPython's grammar.**
    Composition of `wf_output` with C03's `unparse_derives`: with the custom unparser, the token
    list written for the converted program is derived by the expression grammar at the level
    `eval` mode expects, and the derivation builds exactly the converted tree.  (What `compile`
    checks beyond the grammar - e.g. a walrus inside a comprehension iterable, KF-D16 - is decided
    by the oracle.) -/
theorem output_is_expression (cfg : Cfg) (root : SymScope) (body : List Stmt) (e : Expr)
    (h : lowerFull cfg root body = .ok e) (hw : wfBlock body) : D Lv.expression (unparseTop e) e :=
  unparseTop_D e (wf_output cfg root body e h hw)

/-- non-vacuity: a program with a class, a method with defaults, a loop with break and an
    augmented subscript assignment has well-formed expressions -/
example : wfBlock
    [.classDef "A" [.name "B"] [.mk (some "metaclass") (.name "M")]
      [.functionDef "m" (.mk [] ["self", "k"] none [] [] none [.const (.int 1)])
        [.for_ (.tuple [.name "i", .starred (.name "r")]) (.call (.name "f") [.name "k"] [])
          [.if_ (.compare (.name "i") [.gt] [.const (.int 2)]) [.break_] [],
           .augAssign (.subscript (.name "d") (.tuple [.slice none none none, .name "i"])) .add (.name "r")] [],
         .return_ (some (.name "k"))] [.name "dec"] 2] [] 1] := by
  simp [wfBlock, wfS, wfE, wfL, wfO, wfOL, wfA, wfElts, wfKws, wfSlice, wfSliceElts, wfC, isSlice]

end OlVerif.C02
