/-
  C17 -- structural laws behind "no size the interpreter accepts for the source is refused for
  the translation".  Partial by nature: whether a given height exhausts the C stack or the
  recursion limit is run-time behaviour of the interpreter; the check measures that part.
-/
import OlVerif.Lower.Height
import OlVerif.Lower.Except

namespace OlVerif.C17

/-- **The list wrapper is flat**: wrapping `n` statement expressions adds one level, whatever `n`. -/
theorem list_flat (es : List Expr) : height (listWrapper es) = 1 + heightL es := by
  simp [listWrapper, height]

/-- **The chain-call wrapper nests one call per statement**: its height grows at least linearly
    with the number of consecutive statements.  (This is the proved reason for known finding
    KF-D51: recursive consumers of the output - `ast.unparse`, the compiler - overflow from a few
    hundred / thousand consecutive statements under `expr_wrapper=chain_call`.) -/
theorem chain_linear (e : Expr) (es : List Expr) :
    height (chainCallWrapper (e :: es)) ≥ es.length + 1 := by
  simp only [chainCallWrapper]
  have := height_foldl_call es (.call chainRunner [e] [])
  have h2 : height (Expr.call chainRunner [e] []) ≥ 1 := by simp [height]
  omega

/-- with the list wrapper, a block of `n` lowered simple statements has the height of its
    tallest statement plus one: independent of `n` -/
theorem wrap_list_height (cfg : Cfg) (h : cfg.wrapper = .list) (es : List Expr) :
    height (wrapExprs cfg es) ≤ 1 + heightL es := by
  unfold wrapExprs
  split
  · simp [Expr.ellipsis, height]
  · simp [heightL]
  · simp [h, listWrapper, height]

/-- **A block nests once per guard, not once per statement.**  With the list wrapper, if every
    statement of a block lowers to expressions of height at most `H`, the lowered block has height at
    most `max H 2 + 2 · g`, where `g` counts the statements that may interrupt (break / continue /
    return somewhere inside) and are followed by further statements - whatever the length of the
    block: all statements after an interrupt share one guard.  The 2 under `max` is the height of the
    guard's test `not flag`; the factor 2 is what a guard puts above the rest of the block: the
    conditional expression and the list display that wraps the rest. -/
theorem block_height (cx : Ctx) (hw : cx.cfg.wrapper = .list) (H : Nat) :
    ∀ (ss : List Stmt), (∀ s ∈ ss, ∀ st es st', lowerStmt cx s st = .ok (es, st') → heightL es ≤ H) →
    ∀ (st : St) (es : List Expr) (st' : St), lowerBlock cx ss st = .ok (es, st') →
      heightL es ≤ max H 2 + 2 * guardCount cx.flowKind ss
  | [], _, st, es, st', h => by cases h; simp [heightL]
  | s :: ss, hS, st, es, st', h => by
      simp only [lowerBlock, bind_eq_ok, Prod.exists] at h
      obtain ⟨a, st1, ha, h⟩ := h
      have h1 := hS s List.mem_cons_self st a st1 ha
      have ih := fun rest st2 => block_height cx hw H ss (fun x hx => hS x (List.mem_cons_of_mem _ hx)) st1 rest st2
      simp only [guardCount]
      rcases ite_ok h with ⟨hd, h⟩ | ⟨hd, h⟩
      · cases pure_ok h; rw [if_pos hd]; omega
      · rw [if_neg hd]
        rcases ite_ok h with ⟨hm, h⟩ | ⟨hm, h⟩
        all_goals
          simp only [bind_eq_ok, pure_eq_ok, Prod.exists, Prod.mk.injEq] at h
          obtain ⟨rest, st2, hr, rfl, rfl⟩ := h
          have := ih rest _ hr
          rw [heightL_append]
        · -- one guard, whatever the length of the rest
          have := wrap_list_height cx.cfg hw rest
          simp only [if_pos hm, heightL, height, Expr.not_, Expr.ellipsis]
          omega
        · rw [if_neg hm]; omega

/-- in particular: a flat block in which one conditional interrupt is followed by any number of
    statements that cannot interrupt has height at most `max H 2 + 2` -/
theorem one_guard_for_the_rest (fk : FlowKind) (s : Stmt) (rest : List Stmt) (hs : s.isDirect = false)
    (hr : ∀ r ∈ rest, mayInt fk r = false ∧ r.isDirect = false) : guardCount fk (s :: rest) ≤ 1 := by
  have h0 : ∀ (l : List Stmt), (∀ r ∈ l, mayInt fk r = false ∧ r.isDirect = false) → guardCount fk l = 0 := by
    intro l
    induction l with
    | nil => intro _; rfl
    | cons r l ih =>
      intro hl
      simp only [guardCount]
      split
      · rfl
      · rw [(hl r (by simp)).1, ih (fun x hx => hl x (by simp [hx]))]; simp
  simp only [guardCount, hs, Bool.false_or]
  split
  · omega
  · rw [h0 rest hr]; split <;> omega

/-- non-vacuity / witness for the linear law: three statements, height ≥ 3 -/
example : height (chainCallWrapper [.name "a", .name "b", .name "c"]) ≥ 3 :=
  chain_linear (.name "a") [.name "b", .name "c"]

end OlVerif.C17
