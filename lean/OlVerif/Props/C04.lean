/-
  C04: literals are written so that CPython's literal decoding gives back exactly the value, on
  one physical line, in encodable text.
  `escape` is the model of `get_unescaped_str`; its 512-entry table and its behaviour above
  U+00FF are regenerated from /repo on every run (Gen/Escape.lean).
-/
import OlVerif.Unparse.StrLit

namespace OlVerif.C04

/-- the regenerated table, entry by entry: every code point below 256, with either quote, is
    written as something the decoder reads back as that code point, with no line break, no
    surrogate and no brace that was not there -/
theorem esc_table_ok :
    ∀ q : Quote, ∀ c ∈ List.range 256, unitOk q c = true ∧ unitClean q c = true :=
  fun q _ hc => unit_ok_of_lt_256 q (List.mem_range.1 hc)

/-- code points above U+00FF, written the way the regenerated flags say the code writes them:
    a surrogate as `\udXXX`, any other as itself -/
theorem esc_high_ok (q : Quote) (c : Nat) (h1 : 256 ≤ c) (h2 : c < 0x110000) :
    unitOk q c = true ∧ unitClean q c = true :=
  unit_ok_of_ge_256 q h1 h2

/-- **String literals round-trip**: for every string of code points (any length, any content
    incl. quotes, backslashes, control characters, line breaks, braces, surrogates) and either
    quote, Python's literal decoding of the emitted text gives back exactly the string and
    stops exactly at the closing quote. -/
theorem escape_roundtrip (q : Quote) (s rest : List Nat) (hs : ∀ c ∈ s, c < 0x110000) :
    decodeStr q (s.length + 1) (escape q s ++ q.cp :: rest) = some (s, rest) :=
  decodeStr_escape q s rest fun c hc => (unit_ok q (hs c hc)).1

/-- **Never a line break, never an unencodable character** in the body of a literal. -/
theorem escape_one_line (q : Quote) (s : List Nat) (hs : ∀ c ∈ s, c < 0x110000) :
    ∀ a ∈ escape q s, a ≠ 10 ∧ a ≠ 13 ∧ ¬ (0xD800 ≤ a ∧ a ≤ 0xDFFF) :=
  fun _ ha => of_mem_escape q hs ha

/-- **f-string literal parts**: brace doubling is undone exactly, and what is left is the
    escaped text, which decodes to the string (`escape_roundtrip`). -/
theorem fmid_roundtrip (q : Quote) (s : List Nat) :
    undouble (doubleBraces (escape q s)) = some (escape q s) :=
  undouble_doubleBraces _

/-- non-vacuity: a string with a quote, a backslash, a line break, a brace, a lone surrogate
    and an astral code point meets the hypothesis and round-trips -/
example : decodeStr .sq 7 (escape .sq [39, 92, 10, 123, 0xD800, 0x1F600] ++ [39, 43]) =
    some ([39, 92, 10, 123, 0xD800, 0x1F600], [43]) := by decide

end OlVerif.C04
