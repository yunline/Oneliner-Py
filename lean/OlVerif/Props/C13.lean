/-
  C13 -- assignment, destructuring and augmented assignment store what Python stores.
-/
import OlVerif.Assign.Unpack
import OlVerif.Gen.Dispatch
import OlVerif.Lower.Lowers

namespace OlVerif.C13

/-- **Destructuring**: whenever Python's unpacking succeeds, every target (before the star, the
    starred one, after the star) receives from the emitted index / slice expression exactly the
    value Python gives it - for every number of targets, every star position and every length
    of the source sequence. -/
theorem unpack (n : Nat) (star : Option Nat) (vs r : List Val)
    (h : pyValues n star vs = some r) : ∀ i, i < n → olValue n star vs i = r[i]? :=
  unpackG Val.seq n star vs r h

/-- non-vacuity: `a, *b, c = [1, 2, 3, 4]` -/
example : pyValues 3 (some 1) [.atom 1, .atom 2, .atom 3, .atom 4] =
    some [.atom 1, .seq [.atom 2, .atom 3], .atom 4] := by simp [pyValues, pyValuesG]
example : olValue 3 (some 1) [.atom 1, .atom 2, .atom 3, .atom 4] 2 = some (.atom 4) := by
  simp [olValue, olValueG, pyIndexG]

/-- reference table: the function of the standard `operator` module that performs `a op= b`
    (library reference, `operator`, "In-place Operators": `a = iadd(a, b)` is equivalent to `a += b`, …) -/
def refInplaceName : BinOpK → String
  | .add => "iadd" | .sub => "isub" | .mult => "imul" | .matMult => "imatmul"
  | .div => "itruediv" | .floorDiv => "ifloordiv" | .mod => "imod" | .pow => "ipow"
  | .lShift => "ilshift" | .rShift => "irshift" | .bitAnd => "iand" | .bitXor => "ixor"
  | .bitOr => "ior"

/-- T obligation: `PendingAugAssign._op_dict` (regenerated from /repo) maps every one of the 13
    operators to its own in-place function of the `operator` module -/
theorem dunder_table (op : BinOpK) : genAugOpName op = refInplaceName op := by
  cases op <;> decide

/-- the model of the lowering uses the same table -/
theorem model_uses_table (op : BinOpK) : augOpName op = genAugOpName op := by
  cases op <;> decide


/-! ### augmented assignment: one load, one call of the operator function, one store -/

/-- name target: the name is stored once, and what is stored is `operator.i<op>(name, value)` -/
theorem aug_name_single_store (n : Nsp) (x : String) (op : BinOpK) (value : Expr) (st : St)
    (es : List Expr) (st' : St) (h : lowerAugAssign n (.name x) op value st = .ok (es, st')) :
    ∃ v t r, transf n [] value = .ok v ∧ n.getLoad [] x = .ok t ∧
      n.getAssign x (augAssignExpr t op v) = .ok r ∧ es = [r] := by
  obtain ⟨v, hv, ha⟩ := lowerAugAssign_graph h
  cases ha with
  | name ht hr => exact ⟨v, _, _, hv, ht, hr, rfl⟩

/-- attribute target: the object is evaluated once into a temporary, the attribute is loaded once
    from it, and one `setattr` on the same temporary stores `operator.i<op>(loaded, value)` -/
theorem aug_attr_single_store (n : Nsp) (o : Expr) (a : String) (op : BinOpK) (value : Expr) (st : St)
    (es : List Expr) (st' : St) (h : lowerAugAssign n (.attribute o a) op value st = .ok (es, st')) :
    ∃ v p obj tmp, transf n [] value = .ok v ∧ transf n [] o = .ok p ∧
      es = [.namedExpr obj p, .namedExpr tmp (.attribute (.name obj) a),
            .call (.name "setattr") [.name obj, Expr.str a, augAssignExpr (.name tmp) op v] []] := by
  obtain ⟨v, hv, ha⟩ := lowerAugAssign_graph h
  cases ha with
  | «attribute» hp => exact ⟨v, _, _, _, hv, hp, rfl⟩

/-- subscript target: object and index are evaluated once each into temporaries, the item is loaded
    once, and one `__setitem__` with the same object and index stores `operator.i<op>(loaded, value)` -/
theorem aug_sub_single_store (n : Nsp) (o i : Expr) (op : BinOpK) (value : Expr) (st : St)
    (es : List Expr) (st' : St) (h : lowerAugAssign n (.subscript o i) op value st = .ok (es, st')) :
    ∃ v p ix obj sl tmp, transf n [] value = .ok v ∧ transf n [] o = .ok p ∧ transf n [] i = .ok ix ∧
      es = [.namedExpr obj p, .namedExpr sl (convertIndex ix), .namedExpr tmp (.subscript (.name obj) (.name sl)),
            .call (.attribute (.name obj) "__setitem__") [.name sl, augAssignExpr (.name tmp) op v] []] := by
  obtain ⟨v, hv, ha⟩ := lowerAugAssign_graph h
  cases ha with
  | subscript hp hix => exact ⟨v, _, _, _, _, _, hv, hp, hix, rfl⟩

end OlVerif.C13
