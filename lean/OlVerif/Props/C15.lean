/-
  C15 -- partial by nature: "same output on that runtime" is behaviour of six interpreter
  binaries, which the check observes.  What the model carries is syntax: the grammar-level
  table of C03 is stated with the *3.8* value wherever versions differ, so the ladder theorem
  already says the custom unparser never relies on a construct being legal unparenthesised only
  in a newer version.
-/
import OlVerif.Props.C03

namespace OlVerif.C15

/-- where 3.8 .. 3.13 differ on what may stand unparenthesised, the specification table uses the
    strictest (3.8) value: both subscript slots stand at `expression`, so a walrus directly inside
    a subscript (3.10+) is not relied upon; the code parenthesises it there -/
theorem strict_levels :
    slotLv .subSlice = Lv.expression ∧ slotLv .subTupleElt = Lv.expression ∧
    kindLv .namedExpr > slotLv .subSlice ∧ nodePrec .namedExpr > slotPrec .subSlice := by decide

/-- hence, on every version, every ordinary child the code leaves unparenthesised is legal
    there (C03.table_sound, which is stated over those strict levels) -/
theorem syntax_table (s : Slot) (k : Kind) (hk : k.ordinary = true) (hs : s.exprSlot = true)
    (h : nodePrec k ≤ slotPrec s) : kindLv k ≤ slotLv s := C03.table_sound s k hk hs h

/-- a walrus as an element of a list, tuple or set display, or as the element of a comprehension,
    is always written in parentheses (`[(a := 1)]`): its precedence exceeds what the code admits
    in each of these slots -/
theorem walrus_parenthesised_in_containers :
    nodePrec .namedExpr > slotPrec .listElt ∧ nodePrec .namedExpr > slotPrec .tupleElt ∧
    nodePrec .namedExpr > slotPrec .setElt ∧ nodePrec .namedExpr > slotPrec .compElt := by decide

end OlVerif.C15
