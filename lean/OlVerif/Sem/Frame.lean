/-
  The frame property of M-EVAL: an expression free of helper names neither reads nor writes the
  helper variables.
-/
import OlVerif.Sem.Eval

namespace OlVerif.Sem
variable {U V : Type}

theorem isGlue_of_chain {e : Expr} (h : isChain e = true) : isGlue e = true := by simp [isGlue, h]

/-- what `Clean e` says of the parts of `e` when `e` is a form whose meaning the rules fix (so that `Clean.other` is
    not how it was derived) -/
def Parts : Expr → Prop
  | .name x => ¬ isTemp x
  | .namedExpr x e => ¬ isTemp x ∧ Clean e
  | .list es => ∀ e ∈ es, Clean e
  | .attribute o _ => Clean o
  | .subscript o i => Clean o ∧ Clean i
  | .call f as _ => Clean f ∧ ∀ a ∈ as, Clean a
  | .ifExp c a b => Clean c ∧ Clean a ∧ Clean b
  | .boolOp _ [a, b] => Clean a ∧ Clean b
  | _ => True

/-- the one inversion of `Clean`: constructor by constructor it is the premise; `other` contradicts `hg` -/
theorem Clean.parts {e : Expr} (h : Clean e) (hg : isGlue e = true) : Parts e := by
  cases h with
  | const | negInt => trivial
  | name _ h => exact h
  | walrus _ _ h1 h2 => exact ⟨h1, h2⟩
  | list _ h => exact h
  | attr _ _ h => exact h
  | sub _ _ h1 h2 => exact ⟨h1, h2⟩
  | call _ _ _ h1 h2 => exact ⟨h1, h2⟩
  | ifExp _ _ _ h1 h2 h3 => exact ⟨h1, h2, h3⟩
  | boolOp2 _ _ _ h1 h2 => exact ⟨h1, h2⟩
  | other _ h => rw [hg] at h; cases h

/-- the in-place operator call is glue whatever the operator: `isGlue'` accepts the call both when the attribute is
    `__setitem__` and when it is not -/
theorem isGlue_augAssignExpr (a : Expr) (op : BinOpK) (b : Expr) : isGlue (augAssignExpr a op b) = true := by
  unfold augAssignExpr isGlue
  by_cases h : augOpName op = "__setitem__" <;> simp [isGlue', h, Expr.str]

theorem not_clean_forComp {elt itr : Expr} {x : String} (hx : isTemp x) (h : Clean (.listComp elt [.mk (.name x) itr [] false])) : False := by
  cases h with
  | other _ h =>
    have hg : isGlue (.listComp elt [.mk (.name x) itr [] false]) = decide (isTemp x) := rfl
    rw [hg, decide_eq_true hx] at h
    cases h

/-- One induction over the four mutual relations: the claim for a list, the same (first motive) for one expression, and
    none for the iterations of a comprehension - a comprehension over a helper variable is not `Clean`
    (`not_clean_forComp`), so `Iter` / `WIter` are never reached below a `Clean` expression. -/
theorem frameL (W : World U V) : ∀ {es : List Expr} {u : U} {t : T V} {vs : List V} {u' : U} {t' : T V},
    EvL W es u t vs u' t' → (∀ e ∈ es, Clean e) → t' = t ∧ ∀ t2 : T V, EvL W es u t2 vs u' t2 := by
  intro es u t vs u' t' h
  induction h using EvL.rec (motive_1 := fun e u t v u' t' _ => Clean e → t' = t ∧ ∀ t2 : T V, Ev W e u t2 v u' t2)
      (motive_3 := fun _ _ _ _ _ _ _ _ _ => True) (motive_4 := fun _ _ _ _ _ _ _ _ => True) with
  | const c u t => exact ⟨rfl, fun t2 => .const c u t2⟩
  | temp x u t v hx _ hc => exact absurd hx (hc.parts (decide_eq_true hx))
  | walrusT x e hx _ _ hc => exact absurd hx (hc.parts rfl).1
  | walrus x e hx _ ih hc =>
      have ih := ih (hc.parts rfl).2
      exact ⟨ih.1, fun t2 => .walrus x e hx (ih.2 t2)⟩
  | list es _ ih hc =>
      have ih := ih (hc.parts rfl)
      exact ⟨ih.1, fun t2 => .list es (ih.2 t2)⟩
  | attr o a _ hg ih hc =>
      have ih := ih (hc.parts rfl)
      exact ⟨ih.1, fun t2 => .attr o a (ih.2 t2) hg⟩
  | sub o i hns _ _ hg ih1 ih2 hc =>
      have hp := hc.parts rfl
      have ih1 := ih1 hp.1
      have ih2 := ih2 hp.2
      exact ⟨ih2.1.trans ih1.1, fun t2 => .sub o i hns (ih1.2 t2) (ih2.2 t2) hg⟩
  | subSlice o a b c _ hg ih1 hc =>
      have ih1 := ih1 (hc.parts rfl).1
      exact ⟨ih1.1, fun t2 => .subSlice o a b c (ih1.2 t2) hg⟩
  | negInt n u t => exact ⟨rfl, fun t2 => .negInt n u t2⟩
  | tupleCall e _ hi ih1 hc =>
      have ih1 := ih1 ((hc.parts rfl).2 e (by simp))
      exact ⟨ih1.1, fun t2 => .tupleCall e (ih1.2 t2) hi⟩
  | listCall e _ hi ih1 hc =>
      have ih1 := ih1 ((hc.parts rfl).2 e (by simp))
      exact ⟨ih1.1, fun t2 => .listCall e (ih1.2 t2) hi⟩
  | setattr o a e _ _ hg ih1 ih2 hc =>
      have hp := hc.parts rfl
      have ih1 := ih1 (hp.2 o (by simp))
      have ih2 := ih2 (hp.2 e (by simp))
      exact ⟨ih2.1.trans ih1.1, fun t2 => .setattr o a e (ih1.2 t2) (ih2.2 t2) hg⟩
  | setitem o i e _ _ _ hg ih1 ih2 ih3 hc =>
      have hp := hc.parts rfl
      have ih1 := ih1 (hp.1.parts rfl)
      have ih2 := ih2 (hp.2 i (by simp))
      have ih3 := ih3 (hp.2 e (by simp))
      exact ⟨ih3.1.trans (ih2.1.trans ih1.1), fun t2 => .setitem o i e (ih1.2 t2) (ih2.2 t2) (ih3.2 t2) hg⟩
  | iop a op b _ _ hg ih1 ih2 hc =>
      have hp : _ ∧ ∀ x ∈ [a, b], Clean x := hc.parts (isGlue_augAssignExpr a op b)
      have ih1 := ih1 (hp.2 a (by simp))
      have ih2 := ih2 (hp.2 b (by simp))
      exact ⟨ih2.1.trans ih1.1, fun t2 => .iop a op b (ih1.2 t2) (ih2.2 t2) hg⟩
  | ifT c a b _ hb _ ih1 ih2 hc =>
      have hp := hc.parts rfl
      have ih1 := ih1 hp.1
      have ih2 := ih2 hp.2.1
      exact ⟨ih2.1.trans ih1.1, fun t2 => .ifT c a b (ih1.2 t2) hb (ih2.2 t2)⟩
  | ifF c a b _ hb _ ih1 ih2 hc =>
      have hp := hc.parts rfl
      have ih1 := ih1 hp.1
      have ih2 := ih2 hp.2.2
      exact ⟨ih2.1.trans ih1.1, fun t2 => .ifF c a b (ih1.2 t2) hb (ih2.2 t2)⟩
  | andF a b _ hb ih1 hc =>
      have ih1 := ih1 (hc.parts rfl).1
      exact ⟨ih1.1, fun t2 => .andF a b (ih1.2 t2) hb⟩
  | andT a b _ hb _ ih1 ih2 hc =>
      have hp := hc.parts rfl
      have ih1 := ih1 hp.1
      have ih2 := ih2 hp.2
      exact ⟨ih2.1.trans ih1.1, fun t2 => .andT a b (ih1.2 t2) hb (ih2.2 t2)⟩
  | orT a b _ hb ih1 hc =>
      have ih1 := ih1 (hc.parts rfl).1
      exact ⟨ih1.1, fun t2 => .orT a b (ih1.2 t2) hb⟩
  | orF a b _ hb _ ih1 ih2 hc =>
      have hp := hc.parts rfl
      have ih1 := ih1 hp.1
      have ih2 := ih2 hp.2
      exact ⟨ih2.1.trans ih1.1, fun t2 => .orF a b (ih1.2 t2) hb (ih2.2 t2)⟩
  | forComp elt x itr hx _ _ _ _ _ hc => exact (not_clean_forComp hx hc).elim
  | whileComp elt test _ _ hc => exact (not_clean_forComp (by decide) hc).elim
  | runner u t => exact ⟨rfl, fun t2 => .runner u t2⟩
  | chain f a hch _ _ ih1 ih2 hc =>
      have hp := hc.parts (isGlue_of_chain hch)
      have ih1 := ih1 hp.1
      have ih2 := ih2 (hp.2 a (by simp))
      exact ⟨ih2.1.trans ih1.1, fun t2 => .chain f a hch (ih1.2 t2) (ih2.2 t2)⟩
  | user e t hg he => exact ⟨rfl, fun t2 => .user e t2 hg he⟩
  | nil u t => exact fun _ => ⟨rfl, fun t2 => .nil u t2⟩
  | cons _ _ ih1 ih2 =>
      intro hc
      have ih1 := ih1 (hc _ (by simp))
      have ih2 := ih2 (fun e he => hc e (by simp [he]))
      exact ⟨ih2.1.trans ih1.1, fun t2 => .cons (ih1.2 t2) (ih2.2 t2)⟩
  | _ => intros; trivial

theorem frame (W : World U V) : ∀ {e : Expr} {u : U} {t : T V} {v : V} {u' : U} {t' : T V},
    Ev W e u t v u' t' → Clean e → t' = t ∧ ∀ t2 : T V, Ev W e u t2 v u' t2 := by
  intro e u t v u' t' h hc
  -- `EvL.rec` concludes for lists: take the list that holds only `e`
  have f := frameL W (.cons h (.nil u' t')) (List.forall_mem_singleton.mpr hc)
  exact ⟨f.1, fun t2 => match f.2 t2 with | .cons h' (.nil _ _) => h'⟩

end OlVerif.Sem
