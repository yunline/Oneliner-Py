/-
  Assignment targets fed from a value expression that is *pure glue* (a helper variable, or an item of
  one): names, attributes, subscripts and nested tuple / list patterns.  Helper variables created on the
  way never shadow the ones still in use (`Ext` over the live names; the supply is injective).
-/
import OlVerif.Sem.Frame
import OlVerif.Lower.ModuleId
import OlVerif.Lower.Binder
import OlVerif.Lower.Lowers
import OlVerif.Lookup

namespace OlVerif.Sem
variable {U V : Type}

/-- a sequence of expressions evaluated left to right, values dropped -/
def Seq (W : World U V) (es : List Expr) (u : U) (t : T V) (u' : U) (t' : T V) : Prop :=
  ∃ vs, EvL W es u t vs u' t'

theorem Seq.nil (W : World U V) (u : U) (t : T V) : Seq W [] u t u t := ⟨[], .nil u t⟩

theorem Seq.cons {W : World U V} {e : Expr} {es : List Expr} {u u1 u2 : U} {t t1 t2 : T V} {v : V}
    (h : Ev W e u t v u1 t1) (hs : Seq W es u1 t1 u2 t2) : Seq W (e :: es) u t u2 t2 := by
  obtain ⟨vs, hvs⟩ := hs
  exact ⟨v :: vs, .cons h hvs⟩

theorem Seq.one {W : World U V} {e : Expr} {u u1 : U} {t t1 : T V} {v : V} (h : Ev W e u t v u1 t1) : Seq W [e] u t u1 t1 :=
  Seq.cons h (Seq.nil W u1 t1)

theorem evL_append {W : World U V} : ∀ {a b : List Expr} {u u1 u2 : U} {t t1 t2 : T V} {va vb : List V},
    EvL W a u t va u1 t1 → EvL W b u1 t1 vb u2 t2 → EvL W (a ++ b) u t (va ++ vb) u2 t2
  | _, _, _, _, _, _, _, _, _, _, .nil _ _, hb => hb
  | _, _, _, _, _, _, _, _, _, _, .cons h hs, hb => .cons h (evL_append hs hb)

theorem Seq.append {W : World U V} {a b : List Expr} {u u1 u2 : U} {t t1 t2 : T V}
    (ha : Seq W a u t u1 t1) (hb : Seq W b u1 t1 u2 t2) : Seq W (a ++ b) u t u2 t2 := by
  obtain ⟨va, ha⟩ := ha
  obtain ⟨vb, hb⟩ := hb
  exact ⟨va ++ vb, evL_append ha hb⟩

theorem lookup_head (x : String) (v : V) (t : T V) : List.lookup x ((x, v) :: t) = some v :=
  List.lookup_cons_self

theorem lookup_skip {x y : String} (h : x ≠ y) (v : V) (t : T V) : List.lookup x ((y, v) :: t) = List.lookup x t := by
  rw [lookup_cons_ite, if_neg h]

theorem getAssign_module {n : Nsp} (hn : n.kind = .module) (x : String) (v : Expr) :
    n.getAssign x v = .ok (.namedExpr x v) := _root_.OlVerif.getAssign_module hn x v

theorem getLoad_module {n : Nsp} (hn : n.kind = .module) (b : List String) (x : String) :
    n.getLoad b x = .ok (.name x) := _root_.OlVerif.getLoad_module hn b x

theorem convertIndex_plain {i : Expr} (h : plainIndex i) : convertIndex i = i := by
  cases i <;> simp [plainIndex] at h <;> simp [convertIndex]

theorem isTemp_fresh (st : St) (p : String) : isTemp (st.fresh p).1 := fresh_prefix st.sup p

theorem fresh_ne (st st2 : St) (p q : String) (h : st.sup.next ≠ st2.sup.next) : (st.fresh p).1 ≠ (st2.fresh q).1 :=
  fun he => h (fresh_inj st.sup st2.sup p q he)

theorem fresh_next (st : St) (p : String) : (st.fresh p).2.sup.next = st.sup.next + 1 := rfl

/-! ### what lowering does to the lowering state (static) -/

/-- the flags that make the module prelude import helper modules -/
def sameFlags (a b : St) : Prop :=
  a.useItertools = b.useItertools ∧ a.useImportlib = b.useImportlib ∧ a.usePreset = b.usePreset

theorem sameFlags_refl (a : St) : sameFlags a a := ⟨rfl, rfl, rfl⟩
theorem sameFlags_fresh (a : St) (p : String) : sameFlags (a.fresh p).2 a := ⟨rfl, rfl, rfl⟩
theorem sameFlags_trans {a b c : St} (h1 : sameFlags a b) (h2 : sameFlags b c) : sameFlags a c :=
  ⟨h1.1.trans h2.1, h1.2.1.trans h2.2.1, h1.2.2.trans h2.2.2⟩

/-- from `st` to `st'` the supply only moved forward and no helper import was requested -/
def Grows (st st' : St) : Prop := st.sup.next ≤ st'.sup.next ∧ sameFlags st' st

theorem Grows.refl (st : St) : Grows st st := ⟨Nat.le_refl _, sameFlags_refl st⟩
theorem Grows.trans {a b c : St} (h1 : Grows a b) (h2 : Grows b c) : Grows a c :=
  ⟨Nat.le_trans h1.1 h2.1, sameFlags_trans h2.2 h1.2⟩
theorem Grows.fresh (st : St) (p : String) : Grows st (st.fresh p).2 := ⟨Nat.le_succ _, sameFlags_fresh st p⟩

/-- targets only draw fresh names -/
theorem _root_.OlVerif.AssignsElts.grows {n : Nsp} {inP : Bool} {val : Nat → Bool → Expr → Expr} {index : Nat} {hs : Bool} {ts : List Expr}
    {st st' : St} {es : List Expr} (h : AssignsElts n inP val index hs ts st es st') : Grows st st' := by
  induction h using AssignsElts.rec (motive_1 := fun _ _ _ st _ st' _ => Grows st st') with
  | name | «attribute» | subscript | nil => exact .refl _
  | tuple _ ih | list _ ih => exact (Grows.fresh _ _).trans ih
  | starred _ ih => exact ih
  | cons _ _ _ iha ihb => exact iha.trans ihb

theorem _root_.OlVerif.Assigns.grows {n : Nsp} {inP : Bool} {t v : Expr} {st st' : St} {es : List Expr} (h : Assigns n inP t v st es st') :
    Grows st st' := h.toElts.grows

theorem assignAuto_flags {n : Nsp} (hn : n.kind = .module) : ∀ (tg : Expr), SimpleT tg → ∀ (inPat : Bool) (ve : Expr) (st : St)
    (es : List Expr) (st' : St), assignAuto n inPat tg ve st = .ok (es, st') → sameFlags st' st :=
  fun tg _ inPat ve st es st' h => (assignAuto_graph n inPat tg ve st es st' h).grows.2

theorem assignElts_flags {n : Nsp} (hn : n.kind = .module) : ∀ (elts : List Expr), (∀ e ∈ elts, SimpleT e) → ∀ (tmp : String) (len index : Nat)
    (hs : Bool) (st : St) (out : List Expr) (st' : St), assignElts n tmp len index hs elts st = .ok (out, st') → sameFlags st' st :=
  fun elts _ tmp len index hs st out st' h => (assignElts_graph n tmp len index hs elts st out st' h).grows.2

/-! ### live helper variables -/

/-- the helper variables in `live` hold in `t'` what they hold in `t` -/
def Ext (live : List String) (t t' : T V) : Prop := ∀ x ∈ live, t'.lookup x = t.lookup x

theorem Ext.refl (live : List String) (t : T V) : Ext live t t := fun _ _ => rfl
theorem Ext.trans {live : List String} {t t1 t2 : T V} (h1 : Ext live t t1) (h2 : Ext live t1 t2) : Ext live t t2 :=
  fun x hx => (h2 x hx).trans (h1 x hx)
theorem Ext.sub {live live' : List String} {t t' : T V} (h : Ext live' t t') (hs : ∀ x ∈ live, x ∈ live') : Ext live t t' :=
  fun x hx => h x (hs x hx)

/-- every live helper variable was handed out by the supply before counter `k` -/
def LiveOk (live : List String) (k : Nat) : Prop := ∀ x ∈ live, ∃ j q, j < k ∧ x = ((Supply.mk j).fresh q).1

theorem LiveOk.nil (k : Nat) : LiveOk [] k := fun _ hx => nomatch hx

theorem LiveOk.mono {live : List String} {k k' : Nat} (h : LiveOk live k) (hk : k ≤ k') : LiveOk live k' := by
  intro x hx
  obtain ⟨j, q, hj, he⟩ := h x hx
  exact ⟨j, q, by omega, he⟩

theorem LiveOk.cons_fresh {live : List String} (st : St) (p : String) (h : LiveOk live st.sup.next) :
    LiveOk ((st.fresh p).1 :: live) (st.fresh p).2.sup.next := by
  intro x hx
  simp only [List.mem_cons] at hx
  rcases hx with rfl | hx
  · exact ⟨st.sup.next, p, by rw [fresh_next]; omega, rfl⟩
  · exact (h.mono (by rw [fresh_next]; omega)) x hx

theorem Ext.cons_fresh {live : List String} (st : St) (p : String) (v : V) (t : T V) (h : LiveOk live st.sup.next) :
    Ext live t (((st.fresh p).1, v) :: t) := by
  intro x hx
  obtain ⟨j, q, hj, he⟩ := h x hx
  exact lookup_skip (he ▸ fresh_ne_of_lt hj q p) v t

/-- the emitted expressions `es`, evaluated left to right from user state `u` and helper variables `t`, reach user
    state `u'` and leave the helper variables in `live` as they were -/
def Runs (W : World U V) (live : List String) (es : List Expr) (u : U) (t : T V) (u' : U) : Prop :=
  ∃ t', Seq W es u t u' t' ∧ Ext live t t'

theorem Runs.nil {W : World U V} {live : List String} {u : U} {t : T V} : Runs W live [] u t u :=
  ⟨t, Seq.nil W u t, Ext.refl live t⟩

theorem Runs.one {W : World U V} {live : List String} {e : Expr} {u u' : U} {t : T V} {v : V} (h : Ev W e u t v u' t) :
    Runs W live [e] u t u' :=
  ⟨t, Seq.one h, Ext.refl live t⟩

/-- the second part may rely on the live variables only -/
theorem Runs.append {W : World U V} {live : List String} {a b : List Expr} {u u1 u2 : U} {t : T V}
    (ha : Runs W live a u t u1) (hb : ∀ t1, Ext live t t1 → Runs W live b u1 t1 u2) : Runs W live (a ++ b) u t u2 := by
  obtain ⟨t1, sa, xa⟩ := ha
  obtain ⟨t2, sb, xb⟩ := hb t1 xa
  exact ⟨t2, Seq.append sa sb, xa.trans xb⟩

theorem Runs.bind_fresh {W : World U V} {live : List String} (st : St) (p : String) (hlive : LiveOk live st.sup.next)
    {e : Expr} {es : List Expr} {u u1 u2 : U} {t : T V} {v : V} (he : Ev W e u t v u1 t)
    (hr : Runs W ((st.fresh p).1 :: live) es u1 (((st.fresh p).1, v) :: t) u2) :
    Runs W live (.namedExpr (st.fresh p).1 e :: es) u t u2 := by
  obtain ⟨t', hs, hx⟩ := hr
  exact ⟨t', Seq.cons (.walrusT _ _ (isTemp_fresh st p) he) hs,
    (Ext.cons_fresh st p v t hlive).trans (hx.sub fun x hx => List.mem_cons_of_mem _ hx)⟩

theorem Runs.seq {W : World U V} {live : List String} {es : List Expr} {u u' : U} {t : T V} (h : Runs W live es u t u') :
    ∃ t', Seq W es u t u' t' :=
  h.imp fun _ h => h.1

/-! ### pure value expressions -/

/-- `ve` evaluates to `v`, without effect, in every state in which the live helper variables are intact -/
def PureOn (W : World U V) (ve : Expr) (live : List String) (t : T V) (v : V) : Prop :=
  ∀ (u : U) (t' : T V), Ext live t t' → Ev W ve u t' v u t'

theorem PureOn.ev {W : World U V} {ve : Expr} {live : List String} {t : T V} {v : V} (h : PureOn W ve live t v) (u : U) :
    Ev W ve u t v u t := h u t (Ext.refl live t)

theorem pureOn_temp (W : World U V) {live : List String} {t : T V} {tmp : String} {v : V} (hm : tmp ∈ live) (ht : isTemp tmp)
    (hl : t.lookup tmp = some v) : PureOn W (.name tmp) live t v :=
  fun u t' hx => .temp tmp u t' v ht ((hx tmp hm).trans hl)

theorem intConstant_ev (W : World U V) (i : Int) (u : U) (t : T V) : Ev W (intConstant i) u t (W.const (.int i)) u t := by
  unfold intConstant
  split
  · have := Ev.negInt (W := W) (-i) u t
    rwa [Int.neg_neg] at this
  · exact .const _ u t

theorem isSliceE_intConstant (i : Int) : isSliceE (intConstant i) = false := by
  unfold intConstant; split <;> rfl

theorem pureOn_index (W : World U V) (hW : LawfulSeq W) {live : List String} {t : T V} {e : Expr} {items : List V} {i : Int} {v : V}
    (he : PureOn W e live t (W.tupleOf items)) (hi : pyIndexG items i = some v) : PureOn W (.subscript e (intConstant i)) live t v :=
  fun u t' hx => .sub _ _ (isSliceE_intConstant i) (he u t' hx) (intConstant_ev W i u t') (hW.index items i v u hi)

theorem pureOn_star (W : World U V) (hW : LawfulSeq W) {live : List String} {t : T V} {e : Expr} {items : List V} (lo : Nat) (hi : Option Int)
    (he : PureOn W e live t (W.tupleOf items)) :
    PureOn W (.call (.name "list") [.subscript e (.slice (some (.const (.int (lo : Int)))) (hi.map intConstant) none)] []) live t
      (W.listOf (pySliceG items lo hi)) :=
  fun u t' hx => .listCall _ (.subSlice _ _ _ _ (he u t' hx) (hW.slice items lo hi u)) (hW.iter _ u)

theorem PureOn.weaken {W : World U V} {ve : Expr} {live live' : List String} {t t1 : T V} {v : V}
    (h : PureOn W ve live t v) (hs : ∀ x ∈ live, x ∈ live') (hx : Ext live' t t1) : PureOn W ve live' t1 v :=
  fun u t' hx' => h u t' (Ext.trans (hx.sub hs) (hx'.sub hs))

/-! ### which item of a pattern is the starred one -/

def StarAt (star : Option Nat) (index : Nat) (elts : List Expr) : Prop :=
  ∀ j e, elts[j]? = some e → (e.isStarred = true ↔ star = some (index + j))

theorem starCount_zero : ∀ (es : List Expr), starCount es = 0 → ∀ e ∈ es, e.isStarred = false
  | [], _, e, he => by cases he
  | e0 :: es, h, e, he => by
      simp only [starCount] at h
      simp only [List.mem_cons] at he
      rcases he with rfl | he
      · cases hs : e.isStarred
        · rfl
        · simp [hs] at h
      · exact starCount_zero es (by omega) e he

theorem starAt_init : ∀ (es : List Expr), starCount es ≤ 1 → StarAt (starIndex es) 0 es
  | [], _ => by intro j e he; simp at he
  | e0 :: es, h => by
      intro j e he
      simp only [starCount] at h
      simp only [starIndex]
      cases hs : e0.isStarred
      · -- the first item is not the starred one
        simp only [hs, Bool.false_eq_true, if_false, Nat.zero_add] at h ⊢
        cases j with
        | zero =>
          simp only [List.getElem?_cons_zero, Option.some.injEq] at he
          subst he
          simp only [hs, Bool.false_eq_true, false_iff]
          cases starIndex es <;> simp
        | succ j =>
          simp only [List.getElem?_cons_succ] at he
          have ih := starAt_init es (by omega) j e he
          simp only [Nat.zero_add] at ih
          rw [ih]
          cases starIndex es <;> simp
      · simp only [hs, if_true, Nat.zero_add] at h ⊢
        have hz := starCount_zero es (by omega)
        cases j with
        | zero =>
          simp only [List.getElem?_cons_zero, Option.some.injEq] at he
          subst he
          simp [hs]
        | succ j =>
          simp only [List.getElem?_cons_succ] at he
          have := hz e (List.mem_of_getElem? he)
          simp [this]

theorem StarAt.head {star : Option Nat} {index : Nat} {e : Expr} {elts : List Expr} (h : StarAt star index (e :: elts)) :
    (e.isStarred = true ↔ star = some index) := by
  have := h 0 e (by simp)
  simpa using this

theorem StarAt.tail {star : Option Nat} {index : Nat} {e : Expr} {elts : List Expr} (h : StarAt star index (e :: elts)) :
    StarAt star (index + 1) elts := by
  intro j x hx
  have := h (j + 1) x (by simpa using hx)
  rw [this]
  constructor <;> intro hh <;> rw [hh] <;> congr 1 <;> omega

/-! ### targets -/

/-- what `assignAuto_runs` says of one target: the emitted expressions take the user state where the assignment
    takes it, and the live helper variables survive -/
def AutoRuns (W : World U V) (n : Nsp) (tg : Expr) : Prop :=
  ∀ {inPat : Bool} {v : V} {u u' : U}, AssignT W tg v u u' →
  ∀ {ve : Expr} (live : List String) (t : T V) {st st' : St} {es : List Expr}, LiveOk live st.sup.next → PureOn W ve live t v →
  Assigns n inPat tg ve st es st' → Runs W live es u t u'

/-- the item expression yields `olValueG …`, which `unpackG` equates with what Python's unpacking gives the item; `hs` says
    whether the starred item lies before `index` -/
theorem pureOn_eltValue (W : World U V) (hW : LawfulSeq W) {live : List String} {t : T V} {tmp : String} {items : List V}
    {len index : Nat} {star : Option Nat} {hs : Bool} {e : Expr} {v : V}
    (hi : e.isStarred = true ↔ star = some index) (hb : hs = true ↔ ∃ k, star = some k ∧ k < index)
    (hol : olValueG W.listOf len star items index = some v) (ht : PureOn W (.name tmp) live t (W.tupleOf items)) :
    PureOn W (eltValue tmp len index hs e) live t v := by
  unfold eltValue
  cases hes : e.isStarred with
  | true =>
    have hst : star = some index := hi.mp hes
    simp only [hst, olValueG, Nat.lt_irrefl, if_false, if_true, Option.some.injEq] at hol
    rw [← hol]
    have := pureOn_star W hW index (if (index : Int) - (len : Int) + 1 = 0 then none else some ((index : Int) - (len : Int) + 1)) ht
    by_cases h0 : (index : Int) - (len : Int) + 1 = 0 <;> simpa [h0] using this
  | false =>
    have hne : star ≠ some index := fun hh => by rw [hi.mpr hh] at hes; cases hes
    simp only [Bool.false_eq_true, if_false]
    refine pureOn_index W hW ht ?_
    rw [← hol]
    cases star with
    | none =>
      have : hs = false := Bool.eq_false_iff.mpr fun h => by obtain ⟨k, hk, _⟩ := hb.mp h; cases hk
      simp [olValueG, this]
    | some k =>
      have hk : k ≠ index := fun hh => hne (by rw [hh])
      simp only [olValueG]
      by_cases hlt : index < k
      · have : hs = false := Bool.eq_false_iff.mpr fun h => by obtain ⟨k', hk', _⟩ := hb.mp h; cases hk'; omega
        simp [this, hlt]
      · have : hs = true := hb.mpr ⟨k, rfl, by omega⟩
        have hne' : ¬ index = k := fun hh => hk hh.symm
        simp [this, hlt, hne']

/-- The elements of a pattern from position `index` on, `tmp` holding the tuple of the `items`.  What the walk keeps:
    `index + elts.length = len`; the star, if any, is where `star` says (`StarAt`); the values still to be assigned are
    `vals` from `index` on; and `hs` (`assign_auto`'s `have_starred`) says whether the star lies before `index`. -/
theorem assignElts_runs (W : World U V) (hW : LawfulSeq W) {n : Nsp} {tmp : String} {items vals : List V} {len : Nat}
    {star : Option Nat} (hpv : pyValuesG W.listOf len star items = some vals) {live : List String} (elts : List Expr) :
    (∀ e ∈ elts, AutoRuns W n e) → ∀ {valsS : List V} {u u' : U}, AssignEach W elts valsS u u' →
    ∀ {index : Nat}, index + elts.length = len → StarAt star index elts → (∀ j, valsS[j]? = vals[index + j]?) →
    ∀ {hs : Bool}, (hs = true ↔ ∃ k, star = some k ∧ k < index) →
    ∀ {t : T V} {st st' : St} {out : List Expr}, LiveOk live st.sup.next → PureOn W (.name tmp) live t (W.tupleOf items) →
    AssignsElts n true (eltValue tmp len) index hs elts st out st' → Runs W live out u t u' := by
  induction elts with
  | nil =>
      intro _ _ _ _ heach
      cases heach
      intros
      cases ‹AssignsElts n true _ _ _ [] _ _ _›
      exact Runs.nil
  | cons e elts ihl =>
      intro ih _ u u' heach index hlen hstar hvals hs hhs t st st' out hlive hl h
      cases heach with
      | @cons _ _ v0 vs _ _ _ h1 h2 =>
      cases h with
      | cons ha hb _ =>
      have hlen' : index + 1 + elts.length = len := by simp only [List.length_cons] at hlen; omega
      have hol := unpackG W.listOf len star items vals hpv index (by omega)
      have hv0 : vals[index]? = some v0 := by simpa using (hvals 0).symm
      rw [hv0] at hol
      have hvals' : ∀ j, vs[j]? = vals[index + 1 + j]? := fun j => by
        have := hvals (j + 1)
        simpa [Nat.add_assoc, Nat.add_comm 1 j] using this
      have hhs' : ((hs || e.isStarred) = true ↔ ∃ k, star = some k ∧ k < index + 1) := by
        rw [Bool.or_eq_true, hhs, hstar.head]
        constructor
        · rintro (⟨k, hk, hlt⟩ | hk)
          · exact ⟨k, hk, by omega⟩
          · exact ⟨index, hk, by omega⟩
        · rintro ⟨k, hk, hlt⟩
          by_cases hki : k = index
          · exact Or.inr (hki ▸ hk)
          · exact Or.inl ⟨k, hk, by omega⟩
      exact Runs.append (ih e (by simp) h1 live t hlive (pureOn_eltValue W hW hstar.head hhs hol hl) ha) fun t1 hx1 =>
        ihl (fun x hx => ih x (by simp [hx])) h2 hlen' hstar.tail hvals' hhs' (hlive.mono ha.grows.1) (hl.weaken (fun _ h => h) hx1) hb

/-- a tuple / list pattern fed from `ve`, which may have effects (it is evaluated once, first, into `tmp`) -/
theorem pattern_runs (W : World U V) (hW : LawfulSeq W) {n : Nsp} {elts : List Expr} (ih : ∀ e ∈ elts, AutoRuns W n e)
    (hsc : starCount elts ≤ 1) {ve : Expr} {v : V} {items vals : List V} {u0 u u1 u' : U} {live : List String} {t : T V}
    {st st' : St} {rest : List Expr} (hve : Ev W ve u0 t v u t) (hit : W.iter v u = some (items, u1))
    (hvals : pyValuesG W.listOf elts.length (starIndex elts) items = some vals) (heach : AssignEach W elts vals u1 u')
    (hlive : LiveOk live st.sup.next)
    (hr : AssignsElts n true (eltValue (st.fresh "assign").1 elts.length) 0 false elts (st.fresh "assign").2 rest st') :
    Runs W live (unpackHead (st.fresh "assign").1 ve :: rest) u0 t u' :=
  Runs.bind_fresh st "assign" hlive (.tupleCall ve hve hit)
    (assignElts_runs W hW hvals elts ih heach (index := 0) (by simp) (starAt_init elts hsc) (fun j => by simp) (by simp)
      (LiveOk.cons_fresh st "assign" hlive) (pureOn_temp W (by simp) (isTemp_fresh st "assign") (lookup_head _ _ _)) hr)

theorem assignAuto_runs (W : World U V) (hW : LawfulSeq W) {n : Nsp} (hn : n.kind = .module) {tg : Expr} (hs : SimpleT tg) :
    AutoRuns W n tg := by
  intro inPat v u u' ha ve live t st st' es hlive hp h
  induction hs generalizing inPat v u u' ve live t st st' es with
  | name x =>
      cases ha with
      | name _ _ _ hx =>
      cases h with
      | name hr =>
        cases (getAssign_module hn x ve).symm.trans hr
        exact Runs.one (.walrus x _ hx (hp.ev u))
  | attr o a hco =>
      cases ha with
      | attr _ _ ho hset =>
      cases h with
      | «attribute» ho' =>
        cases transf_module_id n hn [] o _ ho'
        exact Runs.one (.setattr o a _ ((frame W ho hco).2 t) (hp.ev _) hset)
  | sub o i hco hci hpi =>
      cases ha with
      | sub _ _ ho hi hset =>
      cases h with
      | subscript ho' hi' =>
        cases transf_module_id n hn [] o _ ho'
        cases transf_module_id n hn [] i _ hi'
        rw [convertIndex_plain hpi]
        exact Runs.one (.setitem o i _ ((frame W ho hco).2 t) ((frame W hi hci).2 t) (hp.ev _) hset)
  | tuple elts _ hsc ih =>
      cases ha with
      | tuple _ hit hvals heach =>
      cases h with
      | tuple hr => exact pattern_runs W hW ih hsc (hp.ev u) hit hvals heach hlive hr
  | list elts _ hsc ih =>
      cases ha with
      | list _ hit hvals heach =>
      cases h with
      | list hr => exact pattern_runs W hW ih hsc (hp.ev u) hit hvals heach hlive hr
  | starred sub _ ih =>
      cases ha with
      | starred _ hin =>
      cases h with
      | starred h => exact ih hin live t hlive hp h

/-- the semantic and the static half in one statement -/
theorem assignAuto_pure (W : World U V) (hW : LawfulSeq W) {n : Nsp} (hn : n.kind = .module) :
    ∀ (tg : Expr), SimpleT tg → ∀ (inPat : Bool) {v : V} {u u' : U}, AssignT W tg v u u' →
    ∀ (ve : Expr) (live : List String) (t : T V) (st : St), LiveOk live st.sup.next → PureOn W ve live t v →
    ∀ (es : List Expr) (st' : St), assignAuto n inPat tg ve st = .ok (es, st') →
      ∃ t', Seq W es u t u' t' ∧ Ext live t t' ∧ st.sup.next ≤ st'.sup.next ∧ sameFlags st' st :=
  fun tg hs inPat _ _ _ ha ve live t st hlive hp es st' h =>
    have hg := assignAuto_graph n inPat tg ve st es st' h
    have ⟨t', hseq, hext⟩ := assignAuto_runs W hW hn hs ha live t hlive hp hg
    ⟨t', hseq, hext, hg.grows⟩

theorem assignElts_pure (W : World U V) (hW : LawfulSeq W) {n : Nsp} (hn : n.kind = .module) :
    ∀ (elts : List Expr), (∀ e ∈ elts, SimpleT e) → ∀ {valsS : List V} {u u' : U}, AssignEach W elts valsS u u' →
    ∀ (tmp : String), isTemp tmp → ∀ (items vals : List V) (len : Nat) (star : Option Nat), pyValuesG W.listOf len star items = some vals →
    ∀ (index : Nat), index + elts.length = len → StarAt star index elts → (∀ j, valsS[j]? = vals[index + j]?) →
    ∀ (hs : Bool), (hs = true ↔ ∃ k, star = some k ∧ k < index) →
    ∀ (live : List String) (t : T V) (st : St), LiveOk live st.sup.next → tmp ∈ live → t.lookup tmp = some (W.tupleOf items) →
    ∀ (out : List Expr) (st' : St), assignElts n tmp len index hs elts st = .ok (out, st') →
      ∃ t', Seq W out u t u' t' ∧ Ext live t t' ∧ st.sup.next ≤ st'.sup.next ∧ sameFlags st' st :=
  fun elts hall _ _ _ heach tmp htmp _ _ len _ hpv index hlen hstar hvals hs hhs _ _ st hlive hm hl out st' h =>
    have hg := assignElts_graph n tmp len index hs elts st out st' h
    have ⟨t', hseq, hext⟩ := assignElts_runs W hW hpv elts (fun e he => assignAuto_runs W hW hn (hall e he)) heach hlen hstar hvals hhs
      hlive (pureOn_temp W hm htmp hl) hg
    ⟨t', hseq, hext, hg.grows⟩

end OlVerif.Sem
