/-
  Decidable (Bool) versions of the hypotheses of the M-EVAL theorems, proved sound, so that the
  correspondence check can evaluate them on real programs.
-/
import OlVerif.Sem.Eval

namespace OlVerif.Sem

def isTempB (x : String) : Bool := decide (isTemp x)

mutual
  def cleanB : Expr → Bool
    | .const _ => true
    | .name x => !isTempB x
    | .namedExpr x e => !isTempB x && cleanB e
    | .list es => cleanBL es
    | .attribute o _ => cleanB o
    | .subscript o i => cleanB o && cleanB i
    | .call f as ks => (cleanB f && cleanBL as) || !isGlue (.call f as ks)
    | .unaryOp .uSub (.const (.int _)) => true
    | .ifExp c a b => cleanB c && cleanB a && cleanB b
    | .boolOp op [a, b] => cleanB a && cleanB b
    | e => !isGlue e
  def cleanBL : List Expr → Bool
    | [] => true
    | e :: es => cleanB e && cleanBL es
end

/-- By induction along the definition of `cleanB` / `cleanBL`: `caseN` is the N-th clause in the order they are written, `cleanBL`'s
    after `cleanB`'s (`simpleTB_sound_both`, `simpleSB_sound_both` likewise). -/
theorem cleanB_sound_both : (∀ e, cleanB e = true → Clean e) ∧ (∀ es, cleanBL es = true → ∀ e ∈ es, Clean e) := by
  apply cleanB.mutual_induct (motive_1 := fun e => cleanB e = true → Clean e) (motive_2 := fun es => cleanBL es = true → ∀ e ∈ es, Clean e)
  case case1 => exact fun c _ => .const c  -- `.const`
  case case2 => exact fun x h => .name x (by simpa [cleanB, isTempB] using h)  -- `.name`
  case case3 =>  -- `.namedExpr`
    intro x e ih h
    simp only [cleanB, Bool.and_eq_true, Bool.not_eq_true', isTempB, decide_eq_false_iff_not] at h
    exact .walrus x e h.1 (ih h.2)
  case case4 => exact fun es ih h => .list es (ih (by simpa [cleanB] using h))  -- `.list`
  case case5 => exact fun o a ih h => .attr o a (ih (by simpa [cleanB] using h))  -- `.attribute`
  case case6 =>  -- `.subscript`
    intro o i iho ihi h
    simp only [cleanB, Bool.and_eq_true] at h
    exact .sub o i (iho h.1) (ihi h.2)
  case case7 =>  -- `.call`
    intro f as ks ihf ihas h
    simp only [cleanB, Bool.or_eq_true, Bool.and_eq_true, Bool.not_eq_true'] at h
    rcases h with ⟨h1, h2⟩ | h
    · exact .call f as ks (ihf h1) (ihas h2)
    · exact .other _ h
  case case8 => exact fun n _ => .negInt n  -- `-n`
  case case9 =>  -- `.ifExp`
    intro c a b ihc iha ihb h
    simp only [cleanB, Bool.and_eq_true] at h
    exact .ifExp c a b (ihc h.1.1) (iha h.1.2) (ihb h.2)
  case case10 =>  -- `.boolOp op [a, b]`
    intro op a b iha ihb h
    simp only [cleanB, Bool.and_eq_true] at h
    exact .boolOp2 op a b (iha h.1) (ihb h.2)
  case case11 =>  -- every other form
    intro e h1 h2 h3 h4 h5 h6 h7 h8 h9 h10 h
    -- `eq_11`: the catch-all is the 11th clause of `cleanB`; the `hi` say that none of the first ten applies
    rw [cleanB.eq_11 e h1 h2 h3 h4 h5 h6 h7 h8 h9 h10] at h
    exact .other e (by simpa using h)
  case case12 => exact fun _ e he => nomatch he  -- `cleanBL []`
  case case13 =>  -- `cleanBL (e :: es)`
    intro e es ihe ihes h
    simp only [cleanBL, Bool.and_eq_true] at h
    exact List.forall_mem_cons.mpr ⟨ihe h.1, ihes h.2⟩

theorem cleanB_sound (e : Expr) : cleanB e = true → Clean e := cleanB_sound_both.1 e

def plainIndexB : Expr → Bool
  | .slice .. => false
  | .tuple _ => false
  | _ => true

theorem plainIndexB_sound (i : Expr) (h : plainIndexB i = true) : plainIndex i := by
  cases i <;> simp [plainIndexB] at h <;> simp [plainIndex]

mutual
  def simpleTB : Expr → Bool
    | .name _ => true
    | .attribute o _ => cleanB o
    | .subscript o i => cleanB o && cleanB i && plainIndexB i
    | .tuple es => simpleTBL es && decide (starCount es ≤ 1)
    | .list es => simpleTBL es && decide (starCount es ≤ 1)
    | .starred sub => simpleTB sub
    | _ => false
  def simpleTBL : List Expr → Bool
    | [] => true
    | e :: es => simpleTB e && simpleTBL es
end

theorem simpleTB_sound_both : (∀ t, simpleTB t = true → SimpleT t) ∧ (∀ es, simpleTBL es = true → ∀ e ∈ es, SimpleT e) := by
  apply simpleTB.mutual_induct (motive_1 := fun t => simpleTB t = true → SimpleT t)
    (motive_2 := fun es => simpleTBL es = true → ∀ e ∈ es, SimpleT e)
  case case1 => exact fun x _ => .name x  -- `.name`
  case case2 => exact fun o a h => .attr o a (cleanB_sound o (by simpa [simpleTB] using h))  -- `.attribute`
  case case3 =>  -- `.subscript`
    intro o i h
    simp only [simpleTB, Bool.and_eq_true] at h
    exact .sub o i (cleanB_sound o h.1.1) (cleanB_sound i h.1.2) (plainIndexB_sound i h.2)
  case case4 =>  -- `.tuple`
    intro es ih h
    simp only [simpleTB, Bool.and_eq_true, decide_eq_true_eq] at h
    exact .tuple es (ih h.1) h.2
  case case5 =>  -- `.list`
    intro es ih h
    simp only [simpleTB, Bool.and_eq_true, decide_eq_true_eq] at h
    exact .list es (ih h.1) h.2
  case case6 => exact fun sub ih h => .starred sub (ih (by simpa [simpleTB] using h))  -- `.starred`
  case case7 =>  -- every other form
    intro t h1 h2 h3 h4 h5 h6 h
    -- `eq_7`: the catch-all is the 7th clause of `simpleTB`
    rw [simpleTB.eq_7 t h1 h2 h3 h4 h5 h6] at h
    cases h
  case case8 => exact fun _ e he => nomatch he  -- `simpleTBL []`
  case case9 =>  -- `simpleTBL (e :: es)`
    intro e es ihe ihes h
    simp only [simpleTBL, Bool.and_eq_true] at h
    exact List.forall_mem_cons.mpr ⟨ihe h.1, ihes h.2⟩

theorem simpleTB_sound (t : Expr) : simpleTB t = true → SimpleT t := simpleTB_sound_both.1 t

theorem simpleTBL_sound : ∀ (es : List Expr), simpleTBL es = true → ∀ e ∈ es, SimpleT e := simpleTB_sound_both.2

mutual
  def simpleSB (w : Bool) : Stmt → Bool
    | .expr e => cleanB e
    | .pass_ => true
    | .global_ _ => true
    | .assign ts value => !ts.isEmpty && ts.all simpleTB && cleanB value
    | .augAssign t _ value => simpleTB t && cleanB value
    | .if_ test body orelse => cleanB test && simpleLB w body && simpleLB w orelse
    | .for_ target iter body orelse => simpleTB target && cleanB iter && simpleLB w body && simpleLB w orelse
    | .while_ test body orelse => w && cleanB test && noWalrus test && simpleLB w body && simpleLB w orelse
    | _ => false
  def simpleLB (w : Bool) : List Stmt → Bool
    | [] => true
    | s :: ss => simpleSB w s && simpleLB w ss
end

theorem simpleSB_sound_both (w : Bool) : (∀ s, simpleSB w s = true → SimpleS w s) ∧ (∀ ss, simpleLB w ss = true → ∀ s ∈ ss, SimpleS w s) := by
  apply simpleSB.mutual_induct (motive_1 := fun s => simpleSB w s = true → SimpleS w s)
    (motive_2 := fun ss => simpleLB w ss = true → ∀ s ∈ ss, SimpleS w s)
  case case1 => exact fun e h => .expr e (cleanB_sound e (by simpa [simpleSB] using h))  -- `.expr`
  case case2 => exact fun _ => .pass  -- `.pass_`
  case case3 => exact fun ns _ => .global_ ns  -- `.global_`
  case case4 =>  -- `.assign`
    intro ts value h
    simp only [simpleSB, Bool.and_eq_true] at h
    refine .assign ts value ?_ ?_ (cleanB_sound _ h.2)
    · intro he; simp [he] at h
    · exact fun t ht => simpleTB_sound t (List.all_eq_true.mp h.1.2 t ht)
  case case5 =>  -- `.augAssign`
    intro t op value h
    simp only [simpleSB, Bool.and_eq_true] at h
    exact .aug t op value (simpleTB_sound t h.1) (cleanB_sound value h.2)
  case case6 =>  -- `.if_`
    intro test body orelse ihb iho h
    simp only [simpleSB, Bool.and_eq_true] at h
    exact .if_ test body orelse (cleanB_sound test h.1.1) (ihb h.1.2) (iho h.2)
  case case7 =>  -- `.for_`
    intro target iter body orelse ihb iho h
    simp only [simpleSB, Bool.and_eq_true] at h
    exact .for_ target iter body orelse (simpleTB_sound target h.1.1.1) (cleanB_sound iter h.1.1.2) (ihb h.1.2) (iho h.2)
  case case8 =>  -- `.while_`
    intro test body orelse ihb iho h
    simp only [simpleSB, Bool.and_eq_true] at h
    exact .while_ test body orelse h.1.1.1.1 (cleanB_sound test h.1.1.1.2) h.1.1.2 (ihb h.1.2) (iho h.2)
  case case9 =>  -- every other statement
    intro s h1 h2 h3 h4 h5 h6 h7 h8 h
    -- `eq_9`: the catch-all is the 9th clause of `simpleSB`
    rw [simpleSB.eq_9 w s h1 h2 h3 h4 h5 h6 h7 h8] at h
    cases h
  case case10 => exact fun _ s hs => nomatch hs  -- `simpleLB w []`
  case case11 =>  -- `simpleLB w (s :: ss)`
    intro s ss ihs ihss h
    simp only [simpleLB, Bool.and_eq_true] at h
    exact List.forall_mem_cons.mpr ⟨ihs h.1, ihss h.2⟩

theorem simpleSB_sound (w : Bool) : ∀ (s : Stmt), simpleSB w s = true → SimpleS w s := (simpleSB_sound_both w).1

theorem simpleLB_sound (w : Bool) (ss : List Stmt) : simpleLB w ss = true → ∀ s ∈ ss, SimpleS w s := (simpleSB_sound_both w).2 ss

/-- the whole module falls under `C01.module_straightline_semantics` -/
def simpleModuleB (body : List Stmt) : Bool := simpleLB false body

theorem simpleModuleB_sound (body : List Stmt) (h : simpleModuleB body = true) : ∀ s ∈ body, SimpleS false s :=
  simpleLB_sound false body h

/-- ... under `C01.module_with_while_semantics` (the fragment that also has `while`) -/
def simpleModuleWB (body : List Stmt) : Bool := simpleLB true body

theorem simpleModuleWB_sound (body : List Stmt) (h : simpleModuleWB body = true) : ∀ s ∈ body, SimpleS true s :=
  simpleLB_sound true body h

end OlVerif.Sem
