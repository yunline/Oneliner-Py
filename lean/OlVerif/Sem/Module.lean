/-
  Simulation: a module-level program of the fragment (`SimpleS`: simple statements, `if`, `for`, `while` without
  break / continue, at any nesting) and the expression it is converted to reach the same user state, for every world.
-/
import OlVerif.Sem.Pattern

namespace OlVerif.Sem
variable {U V : Type}

/-- what lowering the fragment may do to the flags that make the module prelude import helper modules: nothing,
    except that a `while` (fragment `w = true`) asks for `itertools` -/
def okFlags (w : Bool) (a b : St) : Prop :=
  a.useImportlib = b.useImportlib ∧ a.usePreset = b.usePreset ∧ (w = false → a.useItertools = b.useItertools)

theorem okFlags_refl {w : Bool} (a : St) : okFlags w a a := ⟨rfl, rfl, fun _ => rfl⟩
theorem okFlags_trans {w : Bool} {a b c : St} (h1 : okFlags w a b) (h2 : okFlags w b c) : okFlags w a c :=
  ⟨h1.1.trans h2.1, h1.2.1.trans h2.2.1, fun hw => (h1.2.2 hw).trans (h2.2.2 hw)⟩

theorem Grows.okFlags {w : Bool} {a b : St} (h : Grows a b) : okFlags w b a := ⟨h.2.2.1, h.2.2.2, fun _ => h.2.1⟩

/-! ### how the glue forms evaluate -/

theorem isChain_call {f a : Expr} (h : isChain f = true) : isChain (.call f [a] []) = true := by
  unfold isChain
  split
  · rfl
  · rename_i heq; cases heq; exact h
  · rename_i hne; exact absurd rfl (hne _ _)

theorem isChain_base (e : Expr) : isChain (.call chainRunner [e] []) = true := rfl

theorem chain_fold (W : World U V) : ∀ (es : List Expr) (acc : Expr) {u u1 u2 : U} {t t1 t2 : T V} {vs : List V},
    isChain acc = true → Ev W acc u t W.runner u1 t1 → EvL W es u1 t1 vs u2 t2 →
    Ev W (es.foldl (fun acc x => .call acc [x] []) acc) u t W.runner u2 t2
  | [], _, _, _, _, _, _, _, _, _, hacc, .nil _ _ => hacc
  | e :: es, acc, _, _, _, _, _, _, _, hc, hacc, .cons h hs =>
      chain_fold W es (.call acc [e] []) (isChain_call hc) (.chain acc e (isChain_call hc) hacc h) hs

theorem wrap_sim (W : World U V) (cfg : Cfg) {es : List Expr} {u u' : U} {t t' : T V}
    (h : Seq W es u t u' t') : ∃ v, Ev W (wrapExprs cfg es) u t v u' t' := by
  obtain ⟨vs, h⟩ := h
  match es, h with
  | [], .nil _ _ => exact ⟨_, .const .ellipsis _ _⟩
  | [e], .cons h1 (.nil _ _) => exact ⟨_, h1⟩
  | e1 :: e2 :: rest, h =>
    simp only [wrapExprs]
    cases cfg.wrapper with
    | list => exact ⟨_, .list _ h⟩
    | chainCall =>
      cases h with
      | cons h1 hs =>
        simp only [chainCallWrapper]
        exact ⟨_, chain_fold W _ _ (isChain_base e1) (.chain _ e1 (isChain_base e1) (.runner _ _) h1) hs⟩

theorem seq_nil_inv {W : World U V} {u u' : U} {t t' : T V} (h : Seq W [] u t u' t') : u' = u ∧ t' = t := by
  obtain ⟨vs, h⟩ := h
  cases h
  exact ⟨rfl, rfl⟩

/-- the `else` block behind a loop without `break`: evaluating it is evaluating `o` -/
theorem elseT_seq {W : World U V} (cfg : Cfg) (broke : Expr) {o : List Expr} {u u' : U} {t t' : T V} (h : Seq W o u t u' t') :
    Seq W (elseT cfg false broke o) u t u' t' := by
  cases o with
  | nil => exact h
  | cons e o => obtain ⟨v, hv⟩ := wrap_sim W cfg h; exact Seq.one hv

/-- the test is true: the body's expressions are evaluated (`c and [b] or o`: the one-element list is true,
    whatever the body's value is) -/
theorem ifT_true {W : World U V} (hW : Lawful W) (cfg : Cfg) {c : Expr} {b : List Expr} (o : List Expr) {u u1 u2 u3 : U} {t t' : T V} {cv : V}
    (hc : Ev W c u t cv u1 t) (ht : W.truthy cv u1 = some (true, u2)) (hb : Seq W b u2 t u3 t') :
    Seq W (ifT cfg c b o) u t u3 t' := by
  obtain ⟨v, hv⟩ := wrap_sim W cfg hb
  unfold ifT
  cases cfg.ifStyle with
  | ifExpr => exact Seq.one (.ifT _ _ _ hc ht hv)
  | shortCircuit =>
    dsimp only
    split
    · exact Seq.one (.andT _ _ hc ht hv)
    · exact Seq.one (.orT _ _ (.andT _ _ hc ht (.list _ (.cons hv (.nil _ _)))) (hW.list _ _ _))

/-- the test is false: the `else` expressions are evaluated (`c and [b] or o`: `and` yields the test's value, `or`
    takes its truth value again - the same, by `retest`) -/
theorem ifT_false {W : World U V} (hW : Lawful W) (cfg : Cfg) {c : Expr} (b : List Expr) {o : List Expr} {u u1 u2 u3 : U} {t t' : T V} {cv : V}
    (hc : Ev W c u t cv u1 t) (ht : W.truthy cv u1 = some (false, u2)) (ho : Seq W o u2 t u3 t') :
    Seq W (ifT cfg c b o) u t u3 t' := by
  unfold ifT
  cases cfg.ifStyle with
  | ifExpr => obtain ⟨v, hv⟩ := wrap_sim W cfg ho; exact Seq.one (.ifF _ _ _ hc ht hv)
  | shortCircuit =>
    dsimp only
    split
    · rename_i hoe
      have : o = [] := by simpa using hoe
      subst this
      obtain ⟨rfl, rfl⟩ := seq_nil_inv ho
      exact Seq.one (.andF _ _ hc ht)
    · obtain ⟨v, hv⟩ := wrap_sim W cfg ho
      exact Seq.one (.orF _ _ (.andF _ _ hc ht) (hW.retest _ _ _ _ ht) hv)

/-- a `while` without `break` and without guards: the comprehension, then the `else` block -/
theorem whileT_seq {W : World U V} (cfg : Cfg) {l : LoopCtx} (hu : l.used = false) {test : Expr} {b o : List Expr}
    {u u1 u2 : U} {t t1 t2 : T V} {v : V}
    (hloop : Ev W (.listComp (wrapExprs cfg b) [.mk (.name whileCounter) (takewhileIter test) [] false]) u t v u1 t1)
    (ho : Seq W o u1 t1 u2 t2) : Seq W (whileT cfg l false test b o) u t u2 t2 := by
  simp only [whileT, loopBody, hu, Bool.false_eq_true, if_false, List.nil_append]
  exact Seq.cons hloop (elseT_seq cfg _ ho)

/-- a `for` without `break` and without guards; the plain form has no `else` block -/
theorem forT_seq {W : World U V} (cfg : Cfg) {l : LoopCtx} (hu : l.used = false) {plain : Bool} {item : String} {itr : Expr}
    {asg b o : List Expr} (hp : plain = true → o = []) {u u1 u2 : U} {t t1 t2 : T V} {v : V}
    (hloop : Ev W (.listComp (wrapExprs cfg (asg ++ b)) [.mk (.name item) itr [] false]) u t v u1 t1)
    (ho : Seq W o u1 t1 u2 t2) : Seq W (forT cfg l plain false item itr asg b o) u t u2 t2 := by
  unfold forT
  cases plain with
  | true =>
    cases hp rfl
    obtain ⟨rfl, rfl⟩ := seq_nil_inv ho
    exact Seq.one hloop
  | false =>
    simp only [loopBody, hu, Bool.false_eq_true, if_false, List.nil_append]
    exact Seq.cons hloop (elseT_seq cfg _ ho)

/-- `obj := o; tmp := obj.a; setattr(obj, 'a', iop(tmp, value))` for distinct helper names -/
theorem augAttrT_seq {W : World U V} {tmp obj : String} (hT : isTemp tmp) (hO : isTemp obj) (hne : obj ≠ tmp) {o value : Expr} {a : String}
    {op : BinOpK} {u u1 u2 u3 u4 u5 : U} {t : T V} {ov cur b r : V} (ho : Ev W o u t ov u1 t) (hget : W.getattr ov a u1 = some (cur, u2))
    (hval : ∀ t', Ev W value u2 t' b u3 t') (hiop : W.iop op cur b u3 = some (r, u4)) (hset : W.setattr ov a r u4 = some u5) :
    ∃ t', Seq W (augAttrT tmp obj o a op value) u t u5 t' :=
  ⟨_, Seq.cons (.walrusT _ o hO ho) (Seq.cons (.walrusT _ _ hT (.attr _ a (.temp _ _ _ _ hO (lookup_head _ _ _)) hget))
    (Seq.one (.setattr _ a _ (.temp _ _ _ _ hO ((lookup_skip hne _ _).trans (lookup_head _ _ _)))
      (.iop _ op _ (.temp _ _ _ _ hT (lookup_head _ _ _)) (hval _) hiop) hset)))⟩

/-- `obj := o; sl := i; tmp := obj[sl]; obj.__setitem__(sl, iop(tmp, value))` for distinct helper names -/
theorem augSubT_seq {W : World U V} {tmp sl obj : String} (hT : isTemp tmp) (hS : isTemp sl) (hO : isTemp obj) (hOS : obj ≠ sl)
    (hOT : obj ≠ tmp) (hST : sl ≠ tmp) {o i value : Expr} {op : BinOpK} (hi : isSliceE (.name sl) = false) {u u1 u2 u3 u4 u5 u6 : U} {t : T V}
    {ov iv cur b r : V} (ho : Ev W o u t ov u1 t) (hix : ∀ t', Ev W i u1 t' iv u2 t') (hget : W.getitem ov iv u2 = some (cur, u3))
    (hval : ∀ t', Ev W value u3 t' b u4 t') (hiop : W.iop op cur b u4 = some (r, u5)) (hset : W.setitem ov iv r u5 = some u6) :
    ∃ t', Seq W (augSubT tmp sl obj o i op value) u t u6 t' :=
  ⟨_, Seq.cons (.walrusT _ o hO ho) (Seq.cons (.walrusT _ i hS (hix _)) (Seq.cons (.walrusT _ _ hT
    (.sub _ _ hi (.temp _ _ _ _ hO ((lookup_skip hOS _ _).trans (lookup_head _ _ _))) (.temp _ _ _ _ hS (lookup_head _ _ _)) hget))
    (Seq.one (.setitem _ _ _
      (.temp _ _ _ _ hO ((lookup_skip hOT _ _).trans ((lookup_skip hOS _ _).trans (lookup_head _ _ _))))
      (.temp _ _ _ _ hS ((lookup_skip hST _ _).trans (lookup_head _ _ _)))
      (.iop _ op _ (.temp _ _ _ _ hT (lookup_head _ _ _)) (hval _) hiop) hset))))⟩

theorem assignTargets_runs (W : World U V) (hS : LawfulSeq W) {n : Nsp} (hn : n.kind = .module) {tmp : String} (htmp : isTemp tmp) {v : V}
    {live : List String} (hm : tmp ∈ live) (ts : List Expr) :
    (∀ tg ∈ ts, SimpleT tg) → ∀ {u u' : U}, AssignAll W ts v u u' → ∀ {index : Nat} {hs : Bool} {t : T V} {st st' : St} {es : List Expr},
    LiveOk live st.sup.next → t.lookup tmp = some v → AssignsElts n false (fun _ _ _ => .name tmp) index hs ts st es st' →
    Runs W live es u t u' := by
  induction ts with
  | nil =>
      intro _ _ _ hall
      cases hall
      intros
      cases ‹AssignsElts n false _ _ _ [] _ _ _›
      exact Runs.nil
  | cons tg ts ihl =>
      intro hs _ _ hall _ _ t _ _ _ hlive hl h
      cases hall with
      | cons h1 h2 =>
      cases h with
      | cons ha hr _ =>
      exact Runs.append (assignAuto_runs W hS hn (hs tg (by simp)) h1 live t hlive (pureOn_temp W hm htmp hl) ha) fun t1 hx1 =>
        ihl (fun x hx => hs x (by simp [hx])) h2 (hlive.mono ha.grows.1) ((hx1 tmp hm).trans hl) hr

/-! ### the fragment has no break / continue / return -/

theorem flowKind_module {cx : Ctx} (hn : cx.nsp.kind = .module) (hl : cx.loops = []) : cx.flowKind = .none := by
  simp [Ctx.flowKind, hn, hl]

theorem simple_not_direct {w : Bool} {s : Stmt} (hs : SimpleS w s) : s.isDirect = false := by
  cases hs <;> rfl

theorem hasRetL_false : ∀ (ss : List Stmt), (∀ s ∈ ss, hasRet s = false) → hasRetL ss = false
  | [], _ => rfl
  | s :: ss, h => by simp [hasRetL, h s (by simp), hasRetL_false ss (fun x hx => h x (by simp [hx]))]

theorem simple_hasRet {w : Bool} {s : Stmt} (hs : SimpleS w s) : hasRet s = false := by
  induction hs with
  | if_ _ b e _ _ _ ihb ihe => simp [hasRet, hasRetL_false b ihb, hasRetL_false e ihe]
  | for_ _ _ b e _ _ _ _ ihb ihe => simp [hasRet, hasRetL_false b ihb, hasRetL_false e ihe]
  | while_ _ b e _ _ _ _ _ ihb ihe => simp [hasRet, hasRetL_false b ihb, hasRetL_false e ihe]
  | _ => rfl

theorem simpleL_hasRetL {w : Bool} : ∀ (ss : List Stmt), (∀ s ∈ ss, SimpleS w s) → hasRetL ss = false :=
  fun ss hs => hasRetL_false ss fun s h => simple_hasRet (hs s h)

theorem hasBCL_false (bo : Bool) : ∀ (ss : List Stmt), (∀ s ∈ ss, hasBC bo s = false) → hasBCL bo ss = false
  | [], _ => rfl
  | s :: ss, h => by simp [hasBCL, h s (by simp), hasBCL_false bo ss (fun x hx => h x (by simp [hx]))]

theorem simple_hasBC {w : Bool} (bo : Bool) {s : Stmt} (hs : SimpleS w s) : hasBC bo s = false := by
  induction hs with
  | if_ _ b e _ _ _ ihb ihe => simp [hasBC, hasBCL_false bo b ihb, hasBCL_false bo e ihe]
  | for_ _ _ b e _ _ _ _ _ ihe => simp [hasBC, hasBCL_false bo e ihe]
  | while_ _ b e _ _ _ _ _ _ ihe => simp [hasBC, hasBCL_false bo e ihe]
  | _ => rfl

theorem simpleL_hasBCL {w : Bool} (bo : Bool) : ∀ (ss : List Stmt), (∀ s ∈ ss, SimpleS w s) → hasBCL bo ss = false :=
  fun ss hs => hasBCL_false bo ss fun s h => simple_hasBC bo (hs s h)

theorem simple_mayInt {w : Bool} (fk : FlowKind) {s : Stmt} (hs : SimpleS w s) : mayInt fk s = false := by
  cases fk <;> simp [mayInt, simple_hasRet hs, simple_hasBC false hs]

theorem simpleL_hasBreakL {w : Bool} : ∀ (ss : List Stmt), (∀ s ∈ ss, SimpleS w s) → hasBreakL ss = false
  | [], _ => rfl
  | s :: ss, hs => by
      simp [hasBreakL, simple_hasRet (hs s (by simp)), simple_hasBC true (hs s (by simp)), simpleL_hasBreakL ss (fun x hx => hs x (by simp [hx]))]

theorem guardsInL_false {w : Bool} (fk : FlowKind) : ∀ (ss : List Stmt), (∀ s ∈ ss, SimpleS w s) → (∀ s ∈ ss, guardsInS fk s = false) →
    guardsInL fk ss = false
  | [], _, _ => rfl
  | s :: ss, hs, h => by
      simp [guardsInL, simple_not_direct (hs s (by simp)), simple_mayInt fk (hs s (by simp)), h s (by simp),
        guardsInL_false fk ss (fun x hx => hs x (by simp [hx])) (fun x hx => h x (by simp [hx]))]

theorem simple_guardsInS {w : Bool} (fk : FlowKind) : ∀ (s : Stmt), SimpleS w s → guardsInS fk s = false := by
  intro s hs
  induction hs with
  | if_ _ b e _ hb he ihb ihe => simp [guardsInS, guardsInL_false fk b hb ihb, guardsInL_false fk e he ihe]
  | for_ _ _ b e _ _ _ he _ ihe => simp [guardsInS, guardsInL_false fk e he ihe]
  | while_ _ b e _ _ _ _ he _ ihe => simp [guardsInS, guardsInL_false fk e he ihe]
  | _ => rfl

theorem simpleL_guardsInL {w : Bool} (fk : FlowKind) (ss : List Stmt) (hs : ∀ s ∈ ss, SimpleS w s) : guardsInL fk ss = false :=
  guardsInL_false fk ss hs fun s h => simple_guardsInS fk s (hs s h)

/-! ### what lowering the fragment does to the import flags (static) -/

theorem forSt_false (plain : Bool) (st : St) : forSt plain false st = st := by cases plain <;> rfl

theorem okFlags_newLoop {w : Bool} (w' : Bool) (st : St) (b : List Stmt) : okFlags w (newLoop w' st b).2 st := ⟨rfl, rfl, fun _ => rfl⟩

/-- what lowering a block of the fragment does to the flags (`motive_1`: one statement); the statement kinds outside the
    fragment contradict `SimpleS` -/
theorem _root_.OlVerif.LowersB.flags {w : Bool} {cx : Ctx} {ss : List Stmt} {st st' : St} {es : List Expr} (h : LowersB cx ss st es st')
    (hs : ∀ s ∈ ss, SimpleS w s) : okFlags w st' st := by
  induction h using LowersB.rec (motive_1 := fun _ s st _ st' _ => SimpleS w s → okFlags w st' st) with
  | expr | pass_ | global_ | nil => exact okFlags_refl _
  | nonlocal_ | break_ | continue_ | return_ | annAssign_ | annAssign | import_ | importFrom | functionDef | classDef =>
      cases ‹SimpleS w _›
  | if_ _ _ _ ihb iho hs =>
      cases hs with
      | if_ _ _ _ _ hsb hso => exact okFlags_trans (iho hso) (ihb hsb)
  | while_ _ _ _ ihb iho hs =>
      cases hs with
      | while_ _ _ _ hw _ _ hsb hso =>
        have h12 := okFlags_trans (iho hso) (ihb hsb)
        exact ⟨h12.1, h12.2.1, fun hf => by rw [hw] at hf; cases hf⟩
  | for_ _ _ ha _ ihb iho hs =>
      cases hs with
      | for_ _ _ _ _ _ _ hsb hso =>
        rw [simpleL_hasBreakL _ hsb, forSt_false]
        exact okFlags_trans ha.grows.okFlags (okFlags_trans (Grows.fresh _ _).okFlags
          (okFlags_trans (iho hso) (okFlags_trans (ihb hsb) (okFlags_newLoop _ _ _))))
  | assignTmp hr => exact okFlags_trans hr.grows.okFlags (Grows.fresh _ _).okFlags
  | assign hr => exact hr.grows.okFlags
  | augAssign ha => cases ha <;> exact ⟨rfl, rfl, fun _ => rfl⟩
  | last _ _ ih => exact ih (hs _ (by simp))
  | guard _ _ _ hm =>
      rw [simple_mayInt _ (hs _ (by simp))] at hm
      cases hm
  | seq _ _ _ _ ih ihr => exact okFlags_trans (ihr fun x hx => hs x (by simp [hx])) (ih (hs _ (by simp)))

/-- the iterations of the takewhile comprehension follow the iterations of the `while` statement -/
theorem whileIter_sim (W : World U V) (elt : Expr) {test : Expr} {body : List Stmt} (hct : Clean test)
    (hstep : ∀ {u2 u3 : U}, ExecB W body u2 u3 → ∀ (t : T V), ∃ ev t', Ev W elt u2 t ev u3 t') :
    ∀ {u u' : U}, WhileIter W test body u u' → ∀ (t : T V), ∃ vs t', WIter W test elt u t vs u' t'
  | _, _, .done _ _ ht hf, t => ⟨[], t, .done test elt ((frame W ht hct).2 t) hf⟩
  | _, _, .step _ _ ht htr hb hrest, t => by
      obtain ⟨ev, t1, he⟩ := hstep hb t
      obtain ⟨vs, t2, hi⟩ := whileIter_sim W elt hct hstep hrest t1
      exact ⟨ev :: vs, t2, .step test elt ((frame W ht hct).2 t) htr he hi⟩

/-- the iterations of the comprehension follow the iterations of the `for` statement -/
theorem forIter_sim (W : World U V) (elt : Expr) (item : String) {target : Expr} {body : List Stmt} {it : V}
    (hstep : ∀ (v : V) {u1 u2 u3 : U}, AssignT W target v u1 u2 → ExecB W body u2 u3 → ∀ (t : T V), ∃ ev t', Ev W elt u1 ((item, v) :: t) ev u3 t') :
    ∀ {u u' : U}, ForIter W target body it u u' → ∀ (t : T V), ∃ vs t', Iter W elt item it u t vs u' t'
  | _, _, .done _ _ _ hn, t => ⟨[], t, .done elt item it t hn⟩
  | _, _, .step _ _ _ hn ha hb hrest, t => by
      obtain ⟨ev, t1, he⟩ := hstep _ ha hb t
      obtain ⟨vs, t2, hi⟩ := forIter_sim W elt item hstep hrest t1
      exact ⟨ev :: vs, t2, .step elt item it hn he hi⟩

/-! ### statements and blocks -/

/-- A block of the fragment and its lowering reach the same user state (`motive_1`: one statement).  No `live` set here: every
    statement starts from arbitrary helper variables `t` and uses only those it binds itself; only below one assignment target a
    pattern keeps its tuple alive while inner targets draw new names, hence `Runs` there. -/
theorem _root_.OlVerif.LowersB.runs {w : Bool} (W : World U V) (hW : Lawful W) (hS : LawfulSeq W) {cx : Ctx} {ss : List Stmt} {st st' : St}
    {es : List Expr} (h : LowersB cx ss st es st') : cx.nsp.kind = .module → (∀ s ∈ ss, SimpleS w s) → ∀ {u u' : U}, ExecB W ss u u' →
    ∀ (t : T V), ∃ t', Seq W es u t u' t' := by
  induction h using LowersB.rec (motive_1 := fun cx s _ es _ _ => cx.nsp.kind = .module → SimpleS w s → ∀ {u u' : U}, ExecS W s u u' →
      ∀ (t : T V), ∃ t', Seq W es u t u' t') with
  | nonlocal_ | break_ | continue_ | return_ | annAssign_ | annAssign | import_ | importFrom | functionDef | classDef =>
      cases ‹SimpleS w _›
  | expr hv hn hs hx t =>
      cases hs with
      | expr _ hc =>
      cases hx with
      | expr _ he =>
        cases transf_module_id _ hn [] _ _ hv
        exact ⟨t, Seq.one ((frame W he hc).2 t)⟩
  | pass_ _ _ hx t =>
      cases hx
      exact ⟨t, Seq.one (.const .ellipsis _ t)⟩
  | global_ _ _ hx t =>
      cases hx
      exact ⟨t, Seq.nil W _ _⟩
  | assignTmp hr hv _ hn hs hx t =>
      cases hs with
      | assign _ _ _ hts hcv =>
      cases hx with
      | assign _ _ hval hall =>
        cases transf_module_id _ hn [] _ _ hv
        exact (Runs.bind_fresh _ "assign" (LiveOk.nil _) ((frame W hval hcv).2 t)
          (assignTargets_runs W hS hn (isTemp_fresh _ "assign") (by simp) _ hts hall (LiveOk.cons_fresh _ "assign" (LiveOk.nil _))
            (lookup_head _ _ t) hr)).seq
  | assign hr hv hnt hn hs hx t =>
      -- a single target that is a name or a pattern: the value expression is evaluated in place
      cases hs with
      | assign _ _ hne hts hcv =>
      cases hx with
      | assign _ _ hval hall =>
        cases transf_module_id _ hn [] _ _ hv
        have fv := (frame W hval hcv).2 t
        cases hall with
        | nil => exact absurd rfl hne
        | cons h1 h2 =>
        cases h2 with
        | cons => simp [needsTmp] at hnt
        | nil =>
          have hg := hr.single
          cases hts _ List.mem_cons_self with
          | name x =>
            cases h1 with
            | name _ _ _ hxn =>
            cases hg with
            | name hr' =>
              cases (getAssign_module hn x _).symm.trans hr'
              exact ⟨t, Seq.one (.walrus x _ hxn fv)⟩
          | attr o a _ => cases hnt
          | sub o i _ _ _ => cases hnt
          | tuple elts hallE hsc =>
            cases h1 with
            | tuple _ hit hvals heach =>
            cases hg with
            | tuple hr' => exact (pattern_runs W hS (fun e he => assignAuto_runs W hS hn (hallE e he)) hsc fv hit hvals heach (LiveOk.nil _) hr').seq
          | list elts hallE hsc =>
            cases h1 with
            | list _ hit hvals heach =>
            cases hg with
            | list hr' => exact (pattern_runs W hS (fun e he => assignAuto_runs W hS hn (hallE e he)) hsc fv hit hvals heach (LiveOk.nil _) hr').seq
          | starred sub _ => cases hg
  | augAssign ha hv hn hs hx t =>
      cases hs with
      | aug _ _ _ hst hcv =>
      cases transf_module_id _ hn [] _ _ hv
      cases hx with
      | augName x _ _ hxn hload hval hiop =>
        cases ha with
        | name hl hr =>
          cases (getLoad_module hn [] x).symm.trans hl
          cases (getAssign_module hn x _).symm.trans hr
          exact ⟨t, Seq.one (.walrus x _ hxn (.iop _ _ _ ((frame W hload (.name x hxn)).2 t) ((frame W hval hcv).2 t) hiop))⟩
      | augAttr o a _ _ ho hget hval hiop hset =>
        cases hst with
        | attr _ _ hco =>
        cases ha with
        | «attribute» hp =>
          cases transf_module_id _ hn [] _ _ hp
          exact augAttrT_seq (isTemp_fresh _ _) (isTemp_fresh _ _) (fresh_ne _ _ _ _ (by rw [fresh_next]; omega)) ((frame W ho hco).2 t) hget
            (frame W hval hcv).2 hiop hset
      | augSub o i _ _ ho hi hget hval hiop hset =>
        cases hst with
        | sub _ _ hco hci hpi =>
        cases ha with
        | subscript hp hix =>
          cases transf_module_id _ hn [] _ _ hp
          cases transf_module_id _ hn [] _ _ hix
          rw [convertIndex_plain hpi]
          exact augSubT_seq (isTemp_fresh _ _) (isTemp_fresh _ _) (isTemp_fresh _ _) (fresh_ne _ _ _ _ (by rw [fresh_next]; omega))
            (fresh_ne _ _ _ _ (by rw [fresh_next, fresh_next]; omega)) (fresh_ne _ _ _ _ (by rw [fresh_next]; omega)) rfl
            ((frame W ho hco).2 t) (frame W hi hci).2 hget (frame W hval hcv).2 hiop hset
  | if_ _ _ ht ihb iho hn hs hx t =>
      cases hs with
      | if_ _ _ _ hct hsb hso =>
      cases transf_module_id _ hn [] _ _ ht
      cases hx with
      | ifTrue _ _ _ htest htr hxb =>
        obtain ⟨tb, rb⟩ := ihb hn hsb hxb t
        exact ⟨tb, ifT_true hW _ _ ((frame W htest hct).2 t) htr rb⟩
      | ifFalse _ _ _ htest htr hxo =>
        obtain ⟨to, ro⟩ := iho hn hso hxo t
        exact ⟨to, ifT_false hW _ _ ((frame W htest hct).2 t) htr ro⟩
  | @while_ cx test b o st b' st1 o' st2 t' _ _ ht ihb iho hn hs u u' hx t =>
      cases hs with
      | while_ _ _ _ _ hct _ hsb hso =>
      cases transf_module_id _ hn [] _ _ ht
      cases hx with
      | while_ _ _ _ hiter horelse =>
        have hstep : ∀ {w2 w3 : U}, ExecB W b w2 w3 → ∀ (t0 : T V), ∃ ev t1, Ev W (wrapExprs cx.cfg b') w2 t0 ev w3 t1 := by
          intro w2 w3 hbody t0
          obtain ⟨t1, hs1⟩ := ihb hn hsb hbody t0
          obtain ⟨ev, hev⟩ := wrap_sim W cx.cfg hs1
          exact ⟨ev, t1, hev⟩
        obtain ⟨vs, t3, hit⟩ := whileIter_sim W (wrapExprs cx.cfg b') hct hstep hiter t
        obtain ⟨t4, ro⟩ := iho hn hso horelse t3
        rw [simpleL_hasBreakL b hsb]
        exact ⟨t4, whileT_seq cx.cfg (simpleL_guardsInL .loop b hsb) (.whileComp _ _ hit) ro⟩
  | @for_ cx tg it b o st b' st1 o' st2 asg st3 itr _ ho ha hi ihb iho hn hs u u' hx t =>
      cases hs with
      | for_ _ _ _ _ hst hci hsb hso =>
      cases transf_module_id _ hn [] _ _ hi
      cases hx with
      | for_ _ _ _ _ hiter hget hfor horelse =>
        have hitem := isTemp_fresh st2 "item"
        -- one iteration: bind the target from the comprehension variable, then the body
        have hstep : ∀ (v : V) {w1 w2 w3 : U}, AssignT W tg v w1 w2 → ExecB W b w2 w3 → ∀ (t0 : T V),
            ∃ ev t', Ev W (wrapExprs cx.cfg (asg ++ b')) w1 (((st2.fresh "item").1, v) :: t0) ev w3 t' := by
          intro v w1 w2 w3 hat hbody t0
          obtain ⟨t1, hs1, _⟩ := assignAuto_runs W hS hn hst hat [(st2.fresh "item").1] (((st2.fresh "item").1, v) :: t0)
            (LiveOk.cons_fresh st2 "item" (LiveOk.nil _)) (pureOn_temp W (by simp) hitem (lookup_head _ _ _)) ha
          obtain ⟨t2, hs2⟩ := ihb hn hsb hbody t1
          obtain ⟨ev, hev⟩ := wrap_sim W cx.cfg (Seq.append hs1 hs2)
          exact ⟨ev, t2, hev⟩
        obtain ⟨vs, t3, hiterT⟩ := forIter_sim W (wrapExprs cx.cfg (asg ++ b')) (st2.fresh "item").1 hstep hfor t
        obtain ⟨t4, ro⟩ := iho hn hso horelse t3
        rw [simpleL_hasBreakL b hsb]
        refine ⟨t4, forT_seq cx.cfg (simpleL_guardsInL .loop b hsb) ?_ (.forComp _ _ _ hitem ((frame W hiter hci).2 t) hget hiterT) ro⟩
        -- the plain form is emitted only when there is no else block, and the empty block lowers to nothing
        intro hp
        simp only [Bool.and_eq_true, List.isEmpty_iff] at hp
        cases hp.2
        cases ho
        rfl
  | nil =>
      intro _ _ _ _ hx t
      cases hx
      exact ⟨t, Seq.nil W _ _⟩
  | last _ hd ih =>
      intro hn hs _ _ hx t
      cases hx with
      | cons h1 h2 =>
        rw [simple_not_direct (hs _ (by simp)), Bool.false_or, List.isEmpty_iff] at hd
        subst hd
        cases h2
        exact ih hn (hs _ (by simp)) h1 t
  | guard _ _ _ hm =>
      intro _ hs
      rw [simple_mayInt _ (hs _ (by simp))] at hm
      cases hm
  | seq _ _ _ _ ih ihr =>
      intro hn hs _ _ hx t
      cases hx with
      | cons h1 h2 =>
        obtain ⟨t1, r1⟩ := ih hn (hs _ (by simp)) h1 t
        obtain ⟨t2, r2⟩ := ihr hn (fun x hx => hs x (by simp [hx])) h2 t1
        exact ⟨t2, Seq.append r1 r2⟩

/-- simulation and flags in one statement -/
theorem lowerBlock_sim {w : Bool} (W : World U V) (hW : Lawful W) (hS : LawfulSeq W) : ∀ (ss : List Stmt) (cx : Ctx), cx.nsp.kind = .module →
    (∀ s ∈ ss, SimpleS w s) → ∀ {u u' : U}, ExecB W ss u u' → ∀ (t : T V) (st : St) (es : List Expr) (st' : St),
    lowerBlock cx ss st = .ok (es, st') → (∃ t', Seq W es u t u' t') ∧ okFlags w st' st :=
  fun ss cx hn hs _ _ hx t st es st' h =>
    have hg := lowerBlock_graph ss cx st es st' h
    ⟨hg.runs W hW hS hn hs hx t, hg.flags hs⟩

/-! ### the module -/

/-- The converted module, either fragment: the wrapper around the prelude of the final lowering state and the lowered
    statements `b`; these take the user state where the script takes it, and the state asks for no helper import except
    `itertools` when the fragment has `while`. -/
theorem module_runs {w : Bool} (W : World U V) (hW : Lawful W) (hS : LawfulSeq W) (cfg : Cfg) (root : SymScope) (body : List Stmt)
    (hs : ∀ s ∈ body, SimpleS w s) (e : Expr) (h : lowerFull cfg root body = .ok e) {u u' : U} (hx : ExecB W body u u') :
    ∃ b st t', e = wrapExprs cfg (prelude st b) ∧ Seq W b u [] u' t' ∧
      st.useImportlib = false ∧ st.usePreset = false ∧ (w = false → st.useItertools = false) := by
  obtain ⟨g, sup, b, st, hg, hb, rfl⟩ := lowerFull_graph h
  obtain ⟨t', r⟩ := hb.runs W hW hS (generateNsp_kind hg) hs hx []
  -- `okFlags w st st0` at the initial state `st0`, whose flags are all `false`, is the last three conjuncts
  exact ⟨b, st, t', rfl, r, hb.flags hs⟩

/-- **Module code of the fragment means the same after conversion - for every lawful world.**  Whenever
    the source statements run from user state `u` to `u'`, the one expression the conversion returns
    evaluates from `u` to `u'` (the helper variables it creates are in `t'`, apart from the user
    state), under either wrapper and either if-style. -/
theorem module_sim (W : World U V) (hW : Lawful W) (hS : LawfulSeq W) (cfg : Cfg) (root : SymScope) (body : List Stmt) (hs : ∀ s ∈ body, SimpleS false s)
    (e : Expr) (h : lowerFull cfg root body = .ok e) {u u' : U} (hx : ExecB W body u u') :
    ∃ v t', Ev W e u [] v u' t' := by
  obtain ⟨b, st, t', rfl, r, f1, f2, f3⟩ := module_runs W hW hS cfg root body hs e h hx
  obtain ⟨v, hv⟩ := wrap_sim W cfg r
  refine ⟨v, t', ?_⟩
  simpa only [prelude, f1, f2, f3 rfl, Bool.false_eq_true, if_false] using hv

/-- the helper import the module prelude puts in front when a `while` was lowered -/
def itertoolsImport : Expr := .namedExpr "itertools" (.call (.name "__import__") [Expr.str "itertools"] [])

/-- **With `while`.**  The converted expression is the wrapper around the lowered statements `b`, possibly
    preceded by the one helper import `itertools := __import__('itertools')` (a name the property allows
    the converted program to add; its effect is not modelled: the rule for the takewhile comprehension
    assumes `itertools` names the module); evaluated from `u`, the lowered statements reach `u'`. -/
theorem module_sim_while (W : World U V) (hW : Lawful W) (hS : LawfulSeq W) (cfg : Cfg) (root : SymScope) (body : List Stmt)
    (hs : ∀ s ∈ body, SimpleS true s) (e : Expr) (h : lowerFull cfg root body = .ok e) {u u' : U} (hx : ExecB W body u u') :
    ∃ b t', (e = wrapExprs cfg b ∨ e = wrapExprs cfg (itertoolsImport :: b)) ∧ Seq W b u [] u' t' := by
  obtain ⟨b, st, t', rfl, r, f1, f2, _⟩ := module_runs W hW hS cfg root body hs e h hx
  refine ⟨b, t', ?_, r⟩
  simp only [prelude, f1, f2, Bool.false_eq_true, if_false]
  cases st.useItertools
  · exact Or.inl rfl
  · exact Or.inr rfl

end OlVerif.Sem
