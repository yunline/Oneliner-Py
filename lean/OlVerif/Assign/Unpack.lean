/-
  M-ASSIGN, destructuring.  Python's sequence unpacking (one optional starred target at any
  position) against the index / slice expressions `assign_tuple_list` emits:
     tmp = tuple(v);  tmp[i]  |  list(tmp[k : (k-n+1) or None])  |  tmp[i-n]
  with Python's rules for negative indices and slice bounds.
-/
namespace OlVerif

inductive Val
  | atom (n : Nat)
  | seq (vs : List Val)
  deriving Repr, Inhabited

section generic
variable {α : Type}

/-- `l[i]` for a Python sequence: negative indices count from the end, out of range fails -/
def pyIndexG (l : List α) (i : Int) : Option α :=
  if 0 ≤ i then l[i.toNat]?
  else if (-i).toNat ≤ l.length then l[l.length - (-i).toNat]?
  else none

/-- `l[lo:hi]` for `0 ≤ lo` and `hi` absent (None) or negative, the only forms emitted -/
def pySliceG (l : List α) (lo : Nat) (hi : Option Int) : List α :=
  match hi with
  | none => l.drop lo
  | some h => (l.take (l.length - (-h).toNat)).drop lo

/-- **Reference**: what Python's unpacking gives to each of the `n` targets (the starred one
    receives a list, built by `mk`); `none` = ValueError (wrong number of values). -/
def pyValuesG (mk : List α → α) (n : Nat) (star : Option Nat) (vs : List α) : Option (List α) :=
  match star with
  | none => if vs.length = n then some vs else none
  | some k =>
    if k < n ∧ n - 1 ≤ vs.length then
      some (vs.take k ++ [mk ((vs.drop k).take (vs.length - (n - 1)))] ++ vs.drop (vs.length - (n - 1 - k)))
    else none

/-- **Code**: the value expression emitted for target `i` of `n` (`assign_tuple_list`) -/
def olValueG (mk : List α → α) (n : Nat) (star : Option Nat) (vs : List α) (i : Nat) : Option α :=
  match star with
  | none => pyIndexG vs i
  | some k =>
    if i < k then pyIndexG vs i
    else if i = k then
      some (mk (pySliceG vs k (if (k : Int) - n + 1 = 0 then none else some ((k : Int) - n + 1))))
    else pyIndexG vs ((i : Int) - n)

/-! ### what the index and slice forms compute -/

theorem pyIndexG_nat (l : List α) (i : Nat) : pyIndexG l i = l[i]? := by
  rw [pyIndexG, if_pos (Int.natCast_nonneg i), Int.toNat_natCast]

theorem toNat_neg_sub (i n : Nat) : (-((i : Int) - n)).toNat = n - i := by
  rw [Int.neg_sub, Int.toNat_sub]

/-- the negative index `i - n` counts `n - i` from the end -/
theorem pyIndexG_sub (l : List α) {i n : Nat} (hi : i < n) (hn : n - i ≤ l.length) :
    pyIndexG l ((i : Int) - n) = l[l.length - (n - i)]? := by
  rw [pyIndexG, if_neg (by omega), toNat_neg_sub, if_pos hn]

/-- the upper bound `j - n` cuts `n - j` elements off the end -/
theorem pySliceG_sub (l : List α) (lo j n : Nat) :
    pySliceG l lo (some ((j : Int) - n)) = (l.drop lo).take (l.length - (n - j) - lo) := by
  rw [pySliceG, toNat_neg_sub, List.drop_take]

/-- `a ++ [x] ++ b` read by position -/
theorem getElem?_mid (a b : List α) (x : α) (i : Nat) :
    (a ++ [x] ++ b)[i]? = if i < a.length then a[i]? else if i = a.length then some x else b[i - a.length - 1]? := by
  rw [List.append_assoc, List.getElem?_append]
  split
  · rfl
  · split
    · rename_i h; rw [h, Nat.sub_self]; rfl
    · have : i - a.length = (i - a.length - 1) + 1 := by omega
      rw [this]; rfl

/-- whenever Python's unpacking succeeds, every target receives from the emitted index / slice
    expression exactly the value Python gives it (any element type, any list constructor) -/
theorem unpackG (mk : List α → α) (n : Nat) (star : Option Nat) (vs r : List α)
    (h : pyValuesG mk n star vs = some r) : ∀ i, i < n → olValueG mk n star vs i = r[i]? := by
  intro i hi
  cases star with
  | none =>
    rw [pyValuesG] at h
    split at h
    · cases h; exact pyIndexG_nat vs i
    · cases h
  | some k =>
    rw [pyValuesG] at h
    split at h
    · rename_i hk
      obtain ⟨hk1, hk2⟩ := hk
      cases h
      have hlen : (vs.take k).length = k := by rw [List.length_take]; omega
      rw [olValueG, getElem?_mid, hlen]
      split
      · -- before the star: `tmp[i]`
        rw [pyIndexG_nat, List.getElem?_take_of_lt ‹_›]
      · split
        · -- the starred target: `tmp[k : (k-n+1) or None]`
          congr 2
          have : (k : Int) - n + 1 = ((k + 1 : Nat) : Int) - n := by omega
          rw [this]
          split
          · rw [pySliceG, List.take_of_length_le (by rw [List.length_drop]; omega)]
          · rw [pySliceG_sub]
            congr 1; omega
        · -- after the star: `tmp[i-n]`
          rw [pyIndexG_sub vs hi (by omega), List.getElem?_drop]
          congr 1; omega
    · cases h

end generic

abbrev pyIndex (l : List Val) (i : Int) : Option Val := pyIndexG l i
abbrev pySlice (l : List Val) (lo : Nat) (hi : Option Int) : List Val := pySliceG l lo hi
abbrev pyValues (n : Nat) (star : Option Nat) (vs : List Val) : Option (List Val) := pyValuesG Val.seq n star vs
abbrev olValue (n : Nat) (star : Option Nat) (vs : List Val) (i : Nat) : Option Val := olValueG Val.seq n star vs i

end OlVerif
