/-
  Reference model of CPython's string-literal decoding (the part the unparser's output can
  contain) and the lemmas that tie `escape` (the model of `get_unescaped_str`, table
  regenerated from /repo) to it.
-/
import OlVerif.Unparse.Model

namespace OlVerif

/-! ### reference decoder (language reference 2.4.1, "Escape sequences") -/

def hexVal (c : Nat) : Option Nat :=
  if 48 ≤ c ∧ c ≤ 57 then some (c - 48)
  else if 97 ≤ c ∧ c ≤ 102 then some (c - 87)
  else if 65 ≤ c ∧ c ≤ 70 then some (c - 55)
  else none

/-- read exactly `n` hex digits -/
def hexN : Nat → List Nat → Option (Nat × List Nat)
  | 0, rest => some (0, rest)
  | _ + 1, [] => none
  | n + 1, c :: rest =>
    match hexVal c, hexN n rest with
    | some d, some (v, r) => some (d * 16 ^ n + v, r)
    | _, _ => none

/-- the character after a backslash, for the one-character escapes -/
def simpleEsc (x : Nat) : Option Nat :=
  if x = 92 then some 92 else if x = 39 then some 39 else if x = 34 then some 34
  else if x = 110 then some 10 else if x = 114 then some 13 else if x = 116 then some 9
  else if x = 97 then some 7 else if x = 98 then some 8 else if x = 102 then some 12
  else if x = 118 then some 11 else none

/-- decode one character or escape sequence of a `q`-quoted literal.  Partial on purpose:
    octal escapes, `\N{..}`, line continuation and unknown escapes are rejected (`none`), as
    are a bare quote and a physical line break. -/
def decodeUnit (q : Quote) : List Nat → Option (Nat × List Nat)
  | [] => none
  | c :: rest =>
    if c = 92 then
      match rest with
      | [] => none
      | x :: rest' =>
        if x = 120 then hexN 2 rest'
        else if x = 117 then hexN 4 rest'
        else if x = 85 then
          match hexN 8 rest' with
          | some (v, r) => if v < 0x110000 then some (v, r) else none
          | none => none
        else match simpleEsc x with
          | some v => some (v, rest')
          | none => none
    else if c = q.cp ∨ c = 10 ∨ c = 13 then none
    else some (c, rest)

/-- decode the body of a literal up to and including the closing quote -/
def decodeStr (q : Quote) : Nat → List Nat → Option (List Nat × List Nat)
  | 0, _ => none
  | _ + 1, [] => none
  | fuel + 1, c :: rest =>
    if c = q.cp then some ([], rest)
    else match decodeUnit q (c :: rest) with
      | none => none
      | some (u, r) =>
        match decodeStr q fuel r with
        | none => none
        | some (s, r') => some (u :: s, r')

/-- undo brace doubling of an f-string literal part; a lone brace is an error -/
def undouble : List Nat → Option (List Nat)
  | [] => some []
  | [c] => if c = 123 ∨ c = 125 then none else some [c]
  | c :: d :: rest =>
    if c = 123 ∨ c = 125 then
      if d = c then (undouble rest).map (c :: ·) else none
    else (undouble (d :: rest)).map (c :: ·)

/-! ### per-code-point check, decidable, evaluated on the regenerated table -/

/-- what one code point's escape must look like for the decoder to give it back:
    closed under every continuation of the text -/
def unitOk (q : Quote) (c : Nat) : Bool :=
  match escOne q c with
  | [a] => a == c && a != 92 && a != q.cp && a != 10 && a != 13
  | [92, x] => x != 120 && x != 117 && x != 85 && simpleEsc x == some c
  | [92, 120, h1, h2] =>
      (match hexVal h1, hexVal h2 with | some a, some b => a * 16 + b == c | _, _ => false)
  | [92, 117, h1, h2, h3, h4] =>
      (match hexVal h1, hexVal h2, hexVal h3, hexVal h4 with
        | some a, some b, some c', some d => a * 4096 + b * 256 + c' * 16 + d == c | _, _, _, _ => false)
  | [92, 85, h1, h2, h3, h4, h5, h6, h7, h8] =>
      (match hexVal h1, hexVal h2, hexVal h3, hexVal h4, hexVal h5, hexVal h6, hexVal h7, hexVal h8 with
        | some a, some b, some c', some d, some e, some f, some g, some h =>
          a * 268435456 + b * 16777216 + c' * 1048576 + d * 65536 + e * 4096 + f * 256 + g * 16 + h == c
            && c < 0x110000
        | _, _, _, _, _, _, _, _ => false)
  | _ => false

/-- no character of the escape is a physical line break, a surrogate, or a brace that was not
    a brace before -/
def unitClean (q : Quote) (c : Nat) : Bool :=
  (escOne q c).all fun a => a != 10 && a != 13 && !(0xD800 ≤ a && a ≤ 0xDFFF) &&
    ((a == 123 || a == 125) → escOne q c == [c])

/-! ### the decoder on one escape, and on an escaped string -/

theorem decodeUnit_of_unitOk (q : Quote) (c : Nat) (tail : List Nat) (h : unitOk q c = true) :
    decodeUnit q (escOne q c ++ tail) = some (c, tail) := by
  unfold unitOk at h
  split at h
  · rename_i a heq
    simp only [Bool.and_eq_true, beq_iff_eq, bne_iff_ne, ne_eq] at h
    obtain ⟨⟨⟨⟨rfl, h1⟩, h2⟩, h3⟩, h4⟩ := h
    simp [heq, decodeUnit, h1, h2, h3, h4]
  · rename_i x heq
    simp only [Bool.and_eq_true, beq_iff_eq, bne_iff_ne, ne_eq] at h
    obtain ⟨⟨⟨h1, h2⟩, h3⟩, h4⟩ := h
    simp [heq, decodeUnit, h1, h2, h3, h4]
  · rename_i h1 h2 heq
    split at h
    · rename_i a b ha hb
      obtain rfl := beq_iff_eq.1 h
      rw [heq]; simp [decodeUnit, hexN, ha, hb]
    · simp at h
  · rename_i h1 h2 h3 h4 heq
    split at h
    · rename_i a b c' d ha hb hc hd
      obtain rfl := beq_iff_eq.1 h
      rw [heq]; simp [decodeUnit, hexN, ha, hb, hc, hd, Nat.add_assoc]
    · simp at h
  · rename_i h1 h2 h3 h4 h5 h6 h7 h8 heq
    split at h
    · rename_i a b c' d e f g hh ha hb hc hd he hf hg hhh
      simp only [Bool.and_eq_true, beq_iff_eq, decide_eq_true_eq] at h
      obtain ⟨rfl, h2⟩ := h
      rw [heq]; simpa [decodeUnit, hexN, ha, hb, hc, hd, he, hf, hg, hhh, Nat.add_assoc] using h2
    · simp at h
  · simp at h

/-- a unit that decodes cannot begin with the closing quote, so `decodeStr` consumes it next -/
theorem decodeStr_of_decodeUnit {q : Quote} {l r : List Nat} {u : Nat} (h : decodeUnit q l = some (u, r))
    (fuel : Nat) : decodeStr q (fuel + 1) l = (decodeStr q fuel r).map fun p => (u :: p.1, p.2) := by
  cases l with
  | nil => cases h
  | cons a l =>
    have ha : a ≠ q.cp := by
      rintro rfl
      cases q <;> simp [decodeUnit, Quote.cp] at h
    simp only [decodeStr, if_neg ha, h]
    cases decodeStr q fuel r <;> rfl

theorem decodeStr_escape (q : Quote) (s rest : List Nat) (hs : ∀ c ∈ s, unitOk q c = true) :
    decodeStr q (s.length + 1) (escape q s ++ q.cp :: rest) = some (s, rest) := by
  induction s with
  | nil => simp [escape, decodeStr]
  | cons c cs ih =>
    rw [escape, List.append_assoc, List.length_cons,
      decodeStr_of_decodeUnit (decodeUnit_of_unitOk q c _ (hs c (.head _))), ih fun c' hc' => hs c' (.tail _ hc')]
    rfl

theorem mem_escape {q : Quote} {a : Nat} : ∀ {s : List Nat}, a ∈ escape q s ↔ ∃ c ∈ s, a ∈ escOne q c
  | [] => by simp [escape]
  | c :: cs => by simp [escape, mem_escape (s := cs)]

/-! ### brace doubling -/

theorem undouble_cons_of_not_brace {c : Nat} (hc : ¬ (c = 123 ∨ c = 125)) (l : List Nat) :
    undouble (c :: l) = (undouble l).map (c :: ·) := by
  cases l <;> simp [undouble, hc]

theorem undouble_cons_cons_of_brace {c : Nat} (hc : c = 123 ∨ c = 125) (l : List Nat) :
    undouble (c :: c :: l) = (undouble l).map (c :: ·) := by
  simp [undouble, hc]

theorem undouble_doubleBraces (t : List Nat) : undouble (doubleBraces t) = some t := by
  induction t with
  | nil => rfl
  | cons c cs ih =>
    unfold doubleBraces
    split
    · rw [undouble_cons_cons_of_brace ‹_›, ih]; rfl
    · rw [undouble_cons_of_not_brace ‹_›, ih]; rfl

/-! ### every code point's escape passes the check -/

/-- `unitOk q c && unitClean q c` with the table entry `e` as an argument in place of `escOne q c`; the
    two agree by `rfl` (`entryOk_escOne`).  With it the kernel walks each table once; looking every
    `c` up with `getD` is quadratic. -/
def entryOk (q : Quote) (c : Nat) (e : List Nat) : Bool :=
  (match e with
  | [a] => a == c && a != 92 && a != q.cp && a != 10 && a != 13
  | [92, x] => x != 120 && x != 117 && x != 85 && simpleEsc x == some c
  | [92, 120, h1, h2] =>
      (match hexVal h1, hexVal h2 with | some a, some b => a * 16 + b == c | _, _ => false)
  | [92, 117, h1, h2, h3, h4] =>
      (match hexVal h1, hexVal h2, hexVal h3, hexVal h4 with
        | some a, some b, some c', some d => a * 4096 + b * 256 + c' * 16 + d == c | _, _, _, _ => false)
  | [92, 85, h1, h2, h3, h4, h5, h6, h7, h8] =>
      (match hexVal h1, hexVal h2, hexVal h3, hexVal h4, hexVal h5, hexVal h6, hexVal h7, hexVal h8 with
        | some a, some b, some c', some d, some e, some f, some g, some h =>
          a * 268435456 + b * 16777216 + c' * 1048576 + d * 65536 + e * 4096 + f * 256 + g * 16 + h == c
            && c < 0x110000
        | _, _, _, _, _, _, _, _ => false)
  | _ => false) &&
  e.all fun a => a != 10 && a != 13 && !(0xD800 ≤ a && a ≤ 0xDFFF) && ((a == 123 || a == 125) → e == [c])

theorem entryOk_escOne (q : Quote) (c : Nat) : entryOk q c (escOne q c) = (unitOk q c && unitClean q c) := rfl

theorem getD_of_zipIdx {α : Type} {p : Nat → α → Bool} {t : List α} (h : ∀ x ∈ t.zipIdx, p x.2 x.1 = true)
    {i : Nat} (hi : i < t.length) (d : α) : p i (t.getD i d) = true := by
  rw [List.getD_eq_getElem?_getD, List.getElem?_eq_getElem hi]
  exact h (t[i], i) (List.mem_zipIdx_iff_getElem?.mpr (List.getElem?_eq_getElem hi))

theorem unit_ok_of_lt_256 (q : Quote) {c : Nat} (hc : c < 256) : unitOk q c = true ∧ unitClean q c = true := by
  have len : escTabSq.length = 256 ∧ escTabDq.length = 256 := by decide +kernel
  rw [← Bool.and_eq_true, ← entryOk_escOne]
  simp only [escOne, if_pos hc]
  cases q
  · exact getD_of_zipIdx (p := entryOk .sq) (by decide +kernel) (len.1 ▸ hc) _
  · exact getD_of_zipIdx (p := entryOk .dq) (by decide +kernel) (len.2 ▸ hc) _

/-- the local `hex` of `escOne`: the lower-case hex digit for `n` -/
def hexChar (n : Nat) : Nat := if n < 10 then 48 + n else 87 + n

theorem hexChar_spec : ∀ n < 16, hexVal (hexChar n) = some n ∧ 48 ≤ hexChar n ∧ hexChar n ≤ 102 := by decide

theorem escOne_surrogate (q : Quote) {c : Nat} (hs : 0xD800 ≤ c ∧ c ≤ 0xDFFF) :
    escOne q c = [92, 117, hexChar (c / 4096 % 16), hexChar (c / 256 % 16), hexChar (c / 16 % 16), hexChar (c % 16)] := by
  simp only [escOne, if_neg (show ¬ c < 256 by omega), if_pos hs, escSurRaw, Bool.false_eq_true, if_false, hexChar]

theorem unit_ok_of_ge_256 (q : Quote) {c : Nat} (h1 : 256 ≤ c) (h2 : c < 0x110000) :
    unitOk q c = true ∧ unitClean q c = true := by
  by_cases hs : 0xD800 ≤ c ∧ c ≤ 0xDFFF
  · -- each digit reads back, is no line break, surrogate or brace; the four make up `c`
    obtain ⟨a1, l1, u1⟩ := hexChar_spec (c / 4096 % 16) (Nat.mod_lt _ (by decide))
    obtain ⟨a2, l2, u2⟩ := hexChar_spec (c / 256 % 16) (Nat.mod_lt _ (by decide))
    obtain ⟨a3, l3, u3⟩ := hexChar_spec (c / 16 % 16) (Nat.mod_lt _ (by decide))
    obtain ⟨a4, l4, u4⟩ := hexChar_spec (c % 16) (Nat.mod_lt _ (by decide))
    simp [unitOk, unitClean, escOne_surrogate q hs, a1, a2, a3, a4]
    omega
  · -- with the regenerated `escHighRaw = true` the code point is written raw, and it is none of the characters
    -- `unitOk` / `unitClean` look for (all below 256 or surrogates); the `\u` / `\U` branch of `escOne` is not
    -- reached for this value of the flag, and a regenerated `false` would have to be proved here
    have hq : q.cp < 256 := by cases q <;> decide
    simp [unitOk, unitClean, escOne, Nat.not_lt.mpr h1, hs, escHighRaw]
    omega

theorem unit_ok (q : Quote) {c : Nat} (h : c < 0x110000) : unitOk q c = true ∧ unitClean q c = true :=
  if hc : c < 256 then unit_ok_of_lt_256 q hc else unit_ok_of_ge_256 q (Nat.not_lt.1 hc) h

theorem of_mem_escape (q : Quote) {s : List Nat} (hs : ∀ c ∈ s, c < 0x110000) {a : Nat} (ha : a ∈ escape q s) :
    a ≠ 10 ∧ a ≠ 13 ∧ ¬ (0xD800 ≤ a ∧ a ≤ 0xDFFF) := by
  obtain ⟨c, hc, hac⟩ := mem_escape.1 ha
  have := List.all_eq_true.1 (unit_ok q (hs c hc)).2 a hac
  simp only [Bool.and_eq_true, bne_iff_ne, ne_eq, Bool.not_eq_true', Bool.and_eq_false_iff,
    decide_eq_false_iff_not, decide_eq_true_eq] at this
  exact ⟨this.1.1.1, this.1.1.2, fun hh => by rcases this.1.2 with h3 | h3 <;> omega⟩

end OlVerif
