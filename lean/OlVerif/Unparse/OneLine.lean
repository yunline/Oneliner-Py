/-
  The custom unparser never emits a physical line break: every token of `unparse q e` is free of
  LF and CR, for every tree whose *leaves* are clean (identifiers and `repr` texts free of line
  breaks - they are not the unparser's own text; strings hold valid code points, for which the
  escape lemmas of StrLit.lean apply).
-/
import OlVerif.Unparse.StrLit
import OlVerif.Unparse.CleanAttr


namespace OlVerif

def cpsClean (l : List Nat) : Bool := l.all fun c => c != 10 && c != 13
abbrev TokClean (t : Tok) : Prop := cpsClean t.text = true
def Clean (ts : List Tok) : Prop := ∀ t ∈ ts, TokClean t
abbrev StrClean (s : String) : Prop := cpsClean (s.toList.map Char.toNat) = true

/-! ### clean leaves -/

def okC : Const → Prop
  | .str cps => ∀ c ∈ cps, c < 0x110000
  | .none | .true_ | .false_ | .ellipsis => True
  | c => ∀ q, Clean (unparseConst q c)          -- `repr` of numbers / bytes is CPython's

def namesClean (l : List String) : Prop := ∀ a ∈ l, StrClean a
def optNameClean : Option String → Prop
  | none => True
  | some a => StrClean a

mutual
  def okE : Expr → Prop
    | .name id => StrClean id
    | .const c => okC c
    | .joinedStr vs => okL vs
    | .formattedValue v conv spec => okE v ∧ okO spec ∧ Clean (convToks conv)
    | .list es => okL es
    | .tuple es => okL es
    | .set es => okL es
    | .dict items => okD items
    | .starred v => okE v
    | .attribute v a => okE v ∧ StrClean a
    | .subscript v s => okE v ∧ okE s
    | .slice a b c => okO a ∧ okO b ∧ okO c
    | .call f as ks => okE f ∧ okL as ∧ okK ks
    | .binOp a _ b => okE a ∧ okE b
    | .boolOp _ vs => okL vs
    | .unaryOp _ v => okE v
    | .compare l _ cs => okE l ∧ okL cs
    | .ifExp t b e => okE t ∧ okE b ∧ okE e
    | .lambda as b => okA as ∧ okE b
    | .namedExpr t v => StrClean t ∧ okE v
    | .listComp e gs => okE e ∧ okG gs
    | .setComp e gs => okE e ∧ okG gs
    | .generatorExp e gs => okE e ∧ okG gs
    | .dictComp k v gs => okE k ∧ okE v ∧ okG gs
    | .yield_ v => okO v
    | .yieldFrom v => okE v
    | .await v => okE v
  def okL : List Expr → Prop
    | [] => True
    | e :: es => okE e ∧ okL es
  def okO : Option Expr → Prop
    | none => True
    | some e => okE e
  def okOL : List (Option Expr) → Prop
    | [] => True
    | none :: es => okOL es
    | some e :: es => okE e ∧ okOL es
  def okD : List DictItem → Prop
    | [] => True
    | .mk k v :: its => okO k ∧ okE v ∧ okD its
  def okK : List Keyword → Prop
    | [] => True
    | .mk a v :: ks => optNameClean a ∧ okE v ∧ okK ks
  def okG : List Comp → Prop
    | [] => True
    | .mk t i ifs _ :: gs => okE t ∧ okE i ∧ okL ifs ∧ okG gs
  def okA : Arguments → Prop
    | .mk po as va ko kd kw ds => namesClean po ∧ namesClean as ∧ optNameClean va ∧ namesClean ko ∧ okOL kd ∧
        optNameClean kw ∧ okL ds
end

instance (ts : List Tok) : Decidable (Clean ts) := List.decidableBAll _ ts

theorem cpsClean_iff (l : List Nat) : cpsClean l = true ↔ ∀ c ∈ l, c ≠ 10 ∧ c ≠ 13 := by
  simp [cpsClean, List.all_eq_true]

/-! `Clean` is a property of the single tokens, so it distributes over everything the unparser
    builds its output with.  The lemmas of this section are the rewrite rules the induction below
    uses; the tokens the unparser writes of its own are closed terms, clean by evaluation. -/

@[tok_clean] theorem clean_nil : Clean [] := List.forall_mem_nil _
@[tok_clean] theorem clean_cons {t : Tok} {ts : List Tok} : Clean (t :: ts) ↔ TokClean t ∧ Clean ts := List.forall_mem_cons
@[tok_clean] theorem clean_append {a b : List Tok} : Clean (a ++ b) ↔ Clean a ∧ Clean b := List.forall_mem_append

@[tok_clean] theorem clean_wrap (s : Slot) (k : Kind) (ts : List Tok) : Clean (wrap s k ts) ↔ Clean ts := by
  unfold wrap
  split
  · have hl : TokClean lpar := by decide
    have hr : TokClean rpar := by decide
    simp only [clean_cons, clean_append, clean_nil, and_true]
    exact ⟨fun h => h.1.2, fun h => ⟨⟨hl, h⟩, hr⟩⟩
  · rfl

attribute [tok_clean] and_true true_and

theorem clean_ite {c : Prop} [Decidable c] {a b : List Tok} (ha : Clean a) (hb : Clean b) :
    Clean (if c then a else b) := by split <;> assumption

theorem clean_joinToks {sep : List Tok} (hs : Clean sep) :
    ∀ {tss : List (List Tok)}, (∀ ts ∈ tss, Clean ts) → Clean (joinToks sep tss)
  | [], _ => clean_nil
  | [x], h => h x (.head _)
  | x :: y :: rest, h => by
    rw [joinToks.eq_3 _ _ _ (by simp), clean_append, clean_append]
    exact ⟨⟨h x (.head _), hs⟩, clean_joinToks hs (fun ts hts => h ts (.tail _ hts))⟩

theorem clean_commaJoin {tss : List (List Tok)} (h : ∀ ts ∈ tss, Clean ts) : Clean (joinToks [comma] tss) :=
  clean_joinToks (by decide) h

theorem binOp_clean (op : BinOpK) : TokClean (.op (binOpText op)) := by cases op <;> decide
theorem boolOp_clean (op : BoolOpK) : TokClean (boolOpTok op) := by cases op <;> decide
theorem unaryOp_clean (op : UnaryOpK) : TokClean (unaryOpTok op) := by cases op <;> decide
theorem cmpOp_clean (op : CmpOpK) : Clean (cmpOpToks op) := by cases op <;> decide

theorem cpsClean_append (a b : List Nat) : cpsClean (a ++ b) = (cpsClean a && cpsClean b) := List.all_append

theorem cpsClean_cons (c : Nat) (l : List Nat) : cpsClean (c :: l) = ((c != 10 && c != 13) && cpsClean l) := rfl

theorem doubleBraces_clean {l : List Nat} (h : cpsClean l = true) : cpsClean (doubleBraces l) = true := by
  induction l with
  | nil => rfl
  | cons a as ih =>
    rw [cpsClean_cons, Bool.and_eq_true] at h
    unfold doubleBraces
    split <;> simp only [cpsClean_cons, h.1, ih h.2, Bool.and_self]

theorem paramToks_clean (a : String) (d : Option (List Tok)) (ha : StrClean a)
    (hd : ∀ x, d = some x → Clean x) : Clean (paramToks a d) := by
  cases d with
  | none => exact clean_cons.2 ⟨ha, clean_nil⟩
  | some x => exact clean_append.2 ⟨clean_cons.2 ⟨ha, by decide⟩, hd x rfl⟩

theorem alignDefaults_clean (names : List String) (ds : List (List Tok)) (hn : namesClean names)
    (hd : ∀ d ∈ ds, Clean d) : ∀ ts ∈ alignDefaults names ds, Clean ts := by
  intro ts hts
  simp only [alignDefaults, List.mem_append, List.mem_map] at hts
  rcases hts with ⟨a, ha, rfl⟩ | ⟨⟨a, d⟩, had, rfl⟩
  · exact paramToks_clean a none (hn a (List.mem_of_mem_take ha)) (fun x hx => by cases hx)
  · have h1 := List.of_mem_zip had
    exact paramToks_clean a (some d) (hn a (List.mem_of_mem_drop h1.1)) (fun x hx => by cases hx; exact hd _ h1.2)

theorem escape_clean (q : Quote) (cps : List Nat) (h : ∀ c ∈ cps, c < 0x110000) :
    cpsClean (escape q cps) = true :=
  (cpsClean_iff _).mpr fun _ hc => have := of_mem_escape q h hc; ⟨this.1, this.2.1⟩

theorem strLit_clean (q : Quote) (cps : List Nat) (h : ∀ c ∈ cps, c < 0x110000) :
    TokClean (.lit (q.cp :: escape q cps ++ [q.cp])) := by
  have hq : cpsClean [q.cp] = true := by cases q <;> rfl
  show cpsClean ([q.cp] ++ escape q cps ++ [q.cp]) = true
  rw [cpsClean_append, cpsClean_append, hq, escape_clean q cps h]; rfl

theorem natRepr_clean (m : Nat) : StrClean (toString m) := by
  refine (cpsClean_iff _).mpr fun c hc => ?_
  obtain ⟨ch, hch, rfl⟩ := List.mem_map.1 hc
  rw [Nat.toString_eq_repr, Nat.toList_repr] at hch
  have := Nat.isDigit_of_mem_toDigits (by decide) (by decide) hch
  simp only [Char.isDigit, Bool.and_eq_true, decide_eq_true_eq] at this
  have h1 : 48 ≤ ch.toNat := this.1
  omega

theorem const_clean (q : Quote) (c : Const) (h : okC c) : Clean (unparseConst q c) := by
  cases c with
  | str cps => exact clean_cons.2 ⟨strLit_clean q cps h, clean_nil⟩
  | none | true_ | false_ | ellipsis => simp only [unparseConst]; decide
  | int _ | bytes _ | float _ | complex _ => exact h q

/-! ### the induction

Each case rewrites the output with the unparser's defining equation and distributes `Clean` over it
(simp set `tok_clean`); what is left are the rendered children (induction hypotheses, under `wrap`) and the
unparser's own tokens (`decide`). -/

mutual
  theorem clean_unparse (oq : Quote) : ∀ e, okE e → Clean (unparse oq e)
    | .name id, h => by rw [unparse]; exact clean_cons.2 ⟨h, clean_nil⟩
    | .const c, h => by rw [unparse]; exact const_clean _ c h
    | .joinedStr vs, h => by
        rw [unparse]; simp only [tok_clean, clean_unparseJoined oq.flip vs h]
        cases oq <;> decide
    | .formattedValue v conv spec, ⟨hv, hs, hc⟩ => by
        rw [unparse]; simp only [tok_clean, clean_unparse oq v hv, clean_unparseSpec oq spec hs, hc]
        decide
    | .list es, h | .set es, h => by
        rw [unparse]; simp only [tok_clean, clean_commaJoin (clean_unparseList _ oq es h)]
        decide
    | .tuple es, h => by
        have h2 : Clean (if es.length = 1 then [comma] else []) := clean_ite (by decide) clean_nil
        rw [unparse]; simp only [tok_clean, clean_commaJoin (clean_unparseList .tupleElt oq es h), h2]
        decide
    | .dict items, h => by
        rw [unparse]; simp only [tok_clean, clean_commaJoin (clean_unparseDictItems oq items h)]
        decide
    | .starred v, h | .yield_ (some v), h | .yieldFrom v, h | .await v, h => by
        rw [unparse]; simp only [tok_clean, clean_unparse oq v h]
        decide
    | .attribute v a, ⟨hv, ha⟩ => by
        simp only [unparse]
        split <;> simp only [tok_clean, clean_unparse oq v hv]
        · exact ⟨by decide, by decide, ha⟩
        · exact ⟨by decide, ha⟩
    | .subscript v s, ⟨hv, hs⟩ => by
        have hv := clean_unparse oq v hv
        unfold unparse
        split
        · -- `isSliceTuple s`: the inner `match s` has the tuple's text, and `[]` for what cannot get here
          cases s with
          | tuple es =>
            have h2 : Clean (if es.length = 1 then [comma] else []) := clean_ite (by decide) clean_nil
            simp only [tok_clean, hv, h2, clean_commaJoin (clean_unparseList .subTupleElt oq es hs)]
            decide
          | _ => exact clean_nil
        · simp only [tok_clean, hv, clean_unparse oq s hs]
          decide
    | .slice lo up st, ⟨h1, h2, h3⟩ => by
        rw [unparse]
        simp only [tok_clean, clean_unparseOpt .sliceLower oq lo h1, clean_unparseOpt .sliceUpper oq up h2, clean_unparseOpt .sliceStep oq st h3]
        decide
    | .call f args kws, ⟨hf, ha, hk⟩ => by
        have h1 := clean_unparse oq f hf
        have h2 := clean_commaJoin (clean_unparseList .callOnlyArg oq args ha)
        have h3 := clean_commaJoin (List.forall_mem_append.2 ⟨clean_unparseList .callArg oq args ha, clean_unparseKeywords oq kws hk⟩)
        simp only [unparse]
        split <;> simp only [tok_clean, h1, h2, h3] <;> decide
    | .binOp l op r, ⟨hl, hr⟩ => by
        rw [unparse]; simp only [tok_clean, clean_unparse oq l hl, clean_unparse oq r hr]
        exact binOp_clean op
    | .boolOp op vs, h => by
        rw [unparse]
        exact clean_joinToks (clean_cons.2 ⟨boolOp_clean op, clean_nil⟩) (clean_unparseList (.boolVal op) oq vs h)
    | .unaryOp op v, h => by
        rw [unparse]; simp only [tok_clean, clean_unparse oq v h]
        exact unaryOp_clean op
    | .compare l ops cs, ⟨hl, hcs⟩ => by
        rw [unparse]; simp only [tok_clean, clean_unparse oq l hl, clean_unparseCmp oq ops cs hcs]
    | .ifExp t b e, ⟨ht, hb, he⟩ => by
        rw [unparse]; simp only [tok_clean, clean_unparse oq t ht, clean_unparse oq b hb, clean_unparse oq e he]
        decide
    | .lambda as b, ⟨has, hb⟩ => by
        rw [unparse]; simp only [tok_clean, clean_unparseArgs oq as has, clean_unparse oq b hb]
        decide
    | .namedExpr t v, ⟨ht, hv⟩ => by
        rw [unparse]; simp only [tok_clean, clean_unparse oq v hv]
        exact ⟨ht, by decide⟩
    | .listComp e gs, ⟨he, hg⟩ | .setComp e gs, ⟨he, hg⟩ => by
        rw [unparse]; simp only [tok_clean, clean_unparse oq e he, clean_unparseComps oq gs hg]
        decide
    | .generatorExp e gs, ⟨he, hg⟩ => by
        rw [unparse]; simp only [tok_clean, clean_unparse oq e he, clean_unparseComps oq gs hg]
    | .dictComp k v gs, ⟨hk, hv, hg⟩ => by
        rw [unparse]; simp only [tok_clean, clean_unparse oq k hk, clean_unparse oq v hv, clean_unparseComps oq gs hg]
        decide
    | .yield_ none, _ => by rw [unparse]; decide

  theorem clean_unparseList (s : Slot) (oq : Quote) : ∀ es, okL es → ∀ ts ∈ unparseList s oq es, Clean ts
    | [], _ => by rw [unparseList]; exact List.forall_mem_nil _
    | e :: es, ⟨he, hes⟩ => by
        rw [unparseList]
        exact List.forall_mem_cons.2 ⟨(clean_wrap ..).2 (clean_unparse oq e he), clean_unparseList s oq es hes⟩

  theorem clean_unparseOpt (s : Slot) (oq : Quote) : ∀ o, okO o → Clean (unparseOpt s oq o)
    | none, _ => by rw [unparseOpt]; exact clean_nil
    | some e, h => by rw [unparseOpt]; exact (clean_wrap ..).2 (clean_unparse oq e h)

  theorem clean_unparseJoined (q : Quote) : ∀ vs, okL vs → Clean (unparseJoined q vs)
    | [], _ => by rw [unparseJoined]; exact clean_nil
    | e :: vs, ⟨he, hvs⟩ => by
        have ih := clean_unparseJoined q vs hvs
        have he' := clean_unparse q e he
        cases e with
        | const c =>
          cases c with
          | str cps => rw [unparseJoined]; exact clean_cons.2 ⟨doubleBraces_clean (escape_clean q cps he), ih⟩
          | _ => simpa only [unparseJoined] using ih
        | formattedValue v conv spec => rw [unparseJoined]; simp only [tok_clean, he', ih]
        | _ => simpa only [unparseJoined] using ih

  theorem clean_unparseSpec (q : Quote) : ∀ o, okO o → Clean (unparseSpec q o)
    | none, _ => by simp only [unparseSpec]; exact clean_nil
    | some e, h => by
        cases e with
        | joinedStr vs =>
          rw [unparseSpec]; simp only [tok_clean, clean_unparseJoined q vs h]
          decide
        | _ => simp only [unparseSpec]; exact clean_nil

  theorem clean_unparseDictItems (oq : Quote) : ∀ its, okD its → ∀ ts ∈ unparseDictItems oq its, Clean ts
    | [], _ => by rw [unparseDictItems]; exact List.forall_mem_nil _
    | .mk (some k) v :: its, ⟨hk, hv, hits⟩ => by
        rw [unparseDictItems]
        refine List.forall_mem_cons.2 ⟨?_, clean_unparseDictItems oq its hits⟩
        simp only [tok_clean, clean_unparse oq k hk, clean_unparse oq v hv]
        decide
    | .mk none v :: its, ⟨_, hv, hits⟩ => by
        rw [unparseDictItems]
        refine List.forall_mem_cons.2 ⟨?_, clean_unparseDictItems oq its hits⟩
        simp only [tok_clean, clean_unparse oq v hv]
        decide

  theorem clean_unparseKeywords (oq : Quote) : ∀ ks, okK ks → ∀ ts ∈ unparseKeywords oq ks, Clean ts
    | [], _ => by rw [unparseKeywords]; exact List.forall_mem_nil _
    | .mk (some a) v :: ks, ⟨ha, hv, hks⟩ => by
        rw [unparseKeywords]
        refine List.forall_mem_cons.2 ⟨?_, clean_unparseKeywords oq ks hks⟩
        simp only [tok_clean, clean_unparse oq v hv]
        exact ⟨ha, by decide⟩
    | .mk none v :: ks, ⟨_, hv, hks⟩ => by
        rw [unparseKeywords]
        refine List.forall_mem_cons.2 ⟨?_, clean_unparseKeywords oq ks hks⟩
        simp only [tok_clean, clean_unparse oq v hv]
        decide

  theorem clean_unparseCmp (oq : Quote) : ∀ ops cs, okL cs → Clean (unparseCmp oq ops cs)
    | [], _, _ | _ :: _, [], _ => by simp only [unparseCmp]; exact clean_nil
    | op :: ops, c :: cs, ⟨hc, hcs⟩ => by
        rw [unparseCmp]; simp only [tok_clean, cmpOp_clean op, clean_unparse oq c hc, clean_unparseCmp oq ops cs hcs]

  theorem clean_unparseComps (oq : Quote) : ∀ gs, okG gs → Clean (unparseComps oq gs)
    | [], _ => by rw [unparseComps]; exact clean_nil
    | .mk t i ifs a :: gs, ⟨ht, hi, hifs, hgs⟩ => by
        have h5 : Clean (if a = true then [Tok.kw "async"] else []) := clean_ite (by decide) clean_nil
        rw [unparseComps]
        simp only [tok_clean, clean_unparse oq t ht, clean_unparse oq i hi, clean_unparseIfs oq ifs hifs, clean_unparseComps oq gs hgs, h5]
        decide

  theorem clean_unparseIfs (oq : Quote) : ∀ cs, okL cs → Clean (unparseIfs oq cs)
    | [], _ => by rw [unparseIfs]; exact clean_nil
    | c :: cs, ⟨hc, hcs⟩ => by
        rw [unparseIfs]; simp only [tok_clean, clean_unparse oq c hc, clean_unparseIfs oq cs hcs]
        decide

  theorem clean_unparseOptList (s : Slot) (oq : Quote) :
      ∀ ds, okOL ds → ∀ x ∈ unparseOptList s oq ds, ∀ d, x = some d → Clean d
    | [], _ => by rw [unparseOptList]; exact List.forall_mem_nil _
    | none :: ds, h => by
        rw [unparseOptList]
        exact List.forall_mem_cons.2 ⟨fun _ hd => (nomatch hd), clean_unparseOptList s oq ds h⟩
    | some e :: ds, ⟨he, hds⟩ => by
        rw [unparseOptList]
        refine List.forall_mem_cons.2 ⟨fun d hd => ?_, clean_unparseOptList s oq ds hds⟩
        cases hd; exact (clean_wrap ..).2 (clean_unparse oq e he)

  theorem clean_unparseArgs (oq : Quote) : ∀ as, okA as → Clean (unparseArgs oq as)
    | .mk posonly args vararg kwonly kwDefaults kwarg defaults, ⟨hpo, has, hva, hko, hkd, hkw, hds⟩ => by
        have hK := clean_unparseOptList .lambdaKwDefault oq kwDefaults hkd
        have hpos := alignDefaults_clean (posonly ++ args) _ (List.forall_mem_append.2 ⟨hpo, has⟩)
          (clean_unparseList .lambdaDefault oq defaults hds)
        simp only [unparseArgs]
        refine clean_commaJoin ?_
        simp only [List.forall_mem_append]
        refine ⟨⟨⟨?_, ?_⟩, ?_⟩, ?_⟩
        · split
          · exact hpos
          · simp only [List.forall_mem_append, List.forall_mem_singleton]
            exact ⟨⟨fun ts hts => hpos ts (List.mem_of_mem_take hts), by decide⟩,
              fun ts hts => hpos ts (List.mem_of_mem_drop hts)⟩
        · cases vararg with
          | some v =>
            simp only [List.forall_mem_singleton, tok_clean]; exact ⟨by decide, hva⟩
          | none => dsimp only; split <;> decide
        · intro ts hts
          obtain ⟨⟨a, d⟩, had, rfl⟩ := List.mem_map.1 hts
          have h1 := List.of_mem_zip had
          refine paramToks_clean a d (hko a h1.1) fun x hx => ?_
          rcases List.mem_append.mp h1.2 with h2 | h2
          · exact hK d h2 x hx
          · rw [(List.mem_replicate.1 h2).2] at hx; cases hx
        · cases kwarg with
          | some k =>
            simp only [List.forall_mem_singleton, tok_clean]; exact ⟨by decide, hkw⟩
          | none => exact List.forall_mem_nil _
end

theorem clean_unparseTop (e : Expr) (h : okE e) : Clean (unparseTop e) :=
  (clean_wrap ..).2 (clean_unparse .dq e h)

end OlVerif
