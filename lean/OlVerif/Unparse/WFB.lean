/-
  Executable form of the well-formedness predicate (`wfEB`), proved to decide it: the driver
  evaluates it on every tree of the correspondence corpus, so that the hypothesis of
  C03.unparse_derives is known to cover the trees the parser and the converter produce.
-/
import OlVerif.Unparse.WF


namespace OlVerif

def wfCB : Const → Bool
  | .none | .true_ | .false_ | .ellipsis => true
  | .int n => decide (0 ≤ n)
  | .str cps => cps.all fun c => decide (c < 0x110000)
  | .bytes _ => true
  | .float r => (lexRepr (replaceInf r)).length == 1
  | .complex r => (lexRepr (replaceInf r)).length == 1

theorem wfCB_iff (c : Const) : wfCB c = true ↔ wfC c := by
  cases c <;> simp [wfCB, wfC, List.length_eq_one_iff]

def headNotConstStr (vs : List Expr) : Bool :=
  match vs with
  | [] => true
  | v :: _ => !isConstStrE v

theorem headNotConstStr_iff (vs : List Expr) : headNotConstStr vs = true ↔ vs.head?.map isConstStrE ≠ some true := by
  cases vs <;> simp [headNotConstStr]

mutual
  def wfEB : Expr → Bool
    | .name _ => true
    | .const c => wfCB c
    | .joinedStr vs => wfPartsB vs
    | .formattedValue .. => false
    | .list es => wfEltsB es
    | .tuple es => wfEltsB es
    | .set es => !es.isEmpty && wfEltsB es
    | .dict items => wfItemsB items
    | .starred _ => false
    | .attribute v _ => wfEB v
    | .subscript v s => wfEB v && wfSliceB s
    | .slice .. => false
    | .call f as ks => wfEB f && wfEltsB as && wfKwsB ks
    | .binOp a _ b => wfEB a && wfEB b
    | .boolOp _ vs => decide (2 ≤ vs.length) && wfLB vs
    | .unaryOp _ v => wfEB v
    | .compare l ops cs => wfEB l && decide (ops.length = cs.length) && !ops.isEmpty && wfLB cs
    | .ifExp t b e => wfEB t && wfEB b && wfEB e
    | .lambda as b => wfAB as && wfEB b
    | .namedExpr _ v => wfEB v
    | .listComp e gs => wfEB e && !gs.isEmpty && wfGB gs
    | .setComp e gs => wfEB e && !gs.isEmpty && wfGB gs
    | .generatorExp e gs => wfEB e && !gs.isEmpty && wfGB gs
    | .dictComp k v gs => wfEB k && wfEB v && !gs.isEmpty && wfGB gs
    | .yield_ v => wfOB v
    | .yieldFrom v => wfEB v
    | .await v => wfEB v
  def wfLB : List Expr → Bool
    | [] => true
    | e :: es => wfEB e && wfLB es
  def wfOB : Option Expr → Bool
    | none => true
    | some e => wfEB e
  def wfOLB : List (Option Expr) → Bool
    | [] => true
    | none :: es => wfOLB es
    | some e :: es => wfEB e && wfOLB es
  def wfEltsB : List Expr → Bool
    | [] => true
    | .starred v :: es => wfEB v && wfEltsB es
    | e :: es => wfEB e && wfEltsB es
  def wfItemsB : List DictItem → Bool
    | [] => true
    | .mk none v :: its => wfEB v && wfItemsB its
    | .mk (some k) v :: its => wfEB k && wfEB v && wfItemsB its
  def wfKwsB : List Keyword → Bool
    | [] => true
    | .mk _ v :: ks => wfEB v && wfKwsB ks
  def wfGB : List Comp → Bool
    | [] => true
    | .mk t i ifs _ :: gs => targetKind t && wfEB t && wfEB i && wfLB ifs && wfGB gs
  def wfSliceB : Expr → Bool
    | .slice a b c => wfOB a && wfOB b && wfOB c
    | .tuple es => if es.any isSlice then wfSliceEltsB es else wfEltsB es
    | .starred _ => false
    | e => wfEB e
  def wfSliceEltsB : List Expr → Bool
    | [] => true
    | .slice a b c :: es => wfOB a && wfOB b && wfOB c && wfSliceEltsB es
    | .starred v :: es => wfEB v && wfSliceEltsB es
    | e :: es => wfEB e && wfSliceEltsB es
  def wfPartsB : List Expr → Bool
    | [] => true
    | .const (.str cps) :: vs =>
        (cps.all fun c => decide (c < 0x110000)) && !cps.isEmpty && headNotConstStr vs && wfPartsB vs
    | .formattedValue v conv spec :: vs =>
        wfEB v && decide (conv ∈ [(-1 : Int), 114, 115, 97]) && wfSpecB spec && wfPartsB vs
    | _ :: _ => false
  def wfSpecB : Option Expr → Bool
    | none => true
    | some (.joinedStr vs) => wfPartsB vs && specNoBrace vs
    | some _ => false
  def wfAB : Arguments → Bool
    | .mk po as _ ko kd _ ds =>
        decide (ds.length ≤ (po ++ as).length) && decide (kd.length = ko.length) && wfLB ds && wfOLB kd
end

/-- By induction along the definition of `wfEB` and its companions (the conjuncts stand in the order of
    `wfEB.mutual_induct`'s motives): each equation is the Boolean reading of the same equation of `wfE`. -/
theorem wfB_iff :
    (∀ e, wfEB e = true ↔ wfE e) ∧ (∀ o, wfOB o = true ↔ wfO o) ∧ (∀ gs, wfGB gs = true ↔ wfG gs) ∧
    (∀ es, wfLB es = true ↔ wfL es) ∧ (∀ a, wfAB a = true ↔ wfA a) ∧ (∀ es, wfOLB es = true ↔ wfOL es) ∧
    (∀ ks, wfKwsB ks = true ↔ wfKws ks) ∧ (∀ s, wfSliceB s = true ↔ wfSlice s) ∧
    (∀ es, wfEltsB es = true ↔ wfElts es) ∧ (∀ es, wfSliceEltsB es = true ↔ wfSliceElts es) ∧
    (∀ its, wfItemsB its = true ↔ wfItems its) ∧ (∀ vs, wfPartsB vs = true ↔ wfParts vs) ∧
    (∀ o, wfSpecB o = true ↔ wfSpec o) := by
  apply wfEB.mutual_induct <;> intros <;>
    simp [wfEB, wfE, wfLB, wfL, wfOB, wfO, wfOLB, wfOL, wfEltsB, wfElts, wfItemsB, wfItems, wfKwsB, wfKws, wfGB, wfG,
      wfSliceB, wfSlice, wfSliceEltsB, wfSliceElts, wfPartsB, wfParts, wfSpecB, wfSpec, wfAB, wfA, wfCB_iff,
      headNotConstStr_iff, and_assoc, *]

theorem wfEB_iff : ∀ e, wfEB e = true ↔ wfE e := wfB_iff.1

theorem wfEB_sound : ∀ e, wfEB e = true → wfE e := fun e => let ⟨h, _⟩ := wfB_iff; (h e).mp
theorem wfOB_sound : ∀ o, wfOB o = true → wfO o := fun o => let ⟨_, h, _⟩ := wfB_iff; (h o).mp
theorem wfGB_sound : ∀ gs, wfGB gs = true → wfG gs := fun gs => let ⟨_, _, h, _⟩ := wfB_iff; (h gs).mp
theorem wfLB_sound : ∀ es, wfLB es = true → wfL es := fun es => let ⟨_, _, _, h, _⟩ := wfB_iff; (h es).mp
theorem wfAB_sound : ∀ a, wfAB a = true → wfA a := fun a => let ⟨_, _, _, _, h, _⟩ := wfB_iff; (h a).mp
theorem wfOLB_sound : ∀ es, wfOLB es = true → wfOL es := fun es => let ⟨_, _, _, _, _, h, _⟩ := wfB_iff; (h es).mp
theorem wfKwsB_sound : ∀ ks, wfKwsB ks = true → wfKws ks := fun ks => let ⟨_, _, _, _, _, _, h, _⟩ := wfB_iff; (h ks).mp
theorem wfEltsB_sound : ∀ es, wfEltsB es = true → wfElts es := fun es => let ⟨_, _, _, _, _, _, _, _, h, _⟩ := wfB_iff; (h es).mp
theorem wfSliceEltsB_sound : ∀ es, wfSliceEltsB es = true → wfSliceElts es := fun es => let ⟨_, _, _, _, _, _, _, _, _, h, _⟩ := wfB_iff; (h es).mp
theorem wfItemsB_sound : ∀ its, wfItemsB its = true → wfItems its := fun its => let ⟨_, _, _, _, _, _, _, _, _, _, h, _⟩ := wfB_iff; (h its).mp
theorem wfPartsB_sound : ∀ vs, wfPartsB vs = true → wfParts vs := fun vs => let ⟨_, _, _, _, _, _, _, _, _, _, _, h, _⟩ := wfB_iff; (h vs).mp
theorem wfSpecB_sound : ∀ o, wfSpecB o = true → wfSpec o := fun o => let ⟨_, _, _, _, _, _, _, _, _, _, _, _, h⟩ := wfB_iff; (h o).mp

end OlVerif
