import Lean.Meta.Tactic.Simp.RegisterCommand

/-- how `Clean` (OlVerif/Unparse/OneLine.lean) distributes over the operations that build token lists;
    in a module of its own because a simp attribute cannot be used in the module that declares it -/
register_simp_attr tok_clean
