/-
  Every well-formed tree's rendering derives, in the grammar, the tree it was rendered from.
  `unparse` and its companions reduce by definitional unfolding, so the cases apply the grammar's
  constructors directly (`show` spells a shape out only where a rewrite needs it).
-/
import OlVerif.Grammar.Derives
import OlVerif.Grammar.Table
import OlVerif.Unparse.WF


namespace OlVerif
open Spec

theorem binOpText_eq (op : BinOpK) : binOpText op = binSym op := by cases op <;> rfl
theorem unaryOpTok_eq (op : UnaryOpK) : unaryOpTok op = unTok op := by cases op <;> decide +kernel
theorem boolOpTok_eq (op : BoolOpK) : boolOpTok op = boolTok op := by cases op <;> decide +kernel
theorem cmpOpToks_eq (op : CmpOpK) : cmpOpToks op = cmpToks op := by cases op <;> decide +kernel
theorem unary_slot_lv (op : UnaryOpK) : slotLv (.unary op) = kindLv (.unaryOp op) := by cases op <;> rfl

/-- parenthesise-or-not lands at level `lv` as soon as the unparenthesised case fits there -/
theorem wrap_D_of {s : Slot} {k : Kind} {ts : List Tok} {e : Expr} {lv : Nat}
    (hle : nodePrec k ≤ slotPrec s → kindLv k ≤ lv) (h : D (kindLv k) ts e) : D lv (wrap s k ts) e := by
  unfold wrap
  split
  · exact D.up (D.group h (kindLv_le k)) (Nat.zero_le _)
  · exact D.up h (hle (Nat.not_lt.mp ‹_›))

/-- parenthesise-or-not always lands at the level the grammar has at the slot -/
theorem wrap_D {s : Slot} {k : Kind} {ts : List Tok} {e : Expr} (hk : k.ordinary = true)
    (hs : s.exprSlot = true) (h : D (kindLv k) ts e) : D (slotLv s) (wrap s k ts) e :=
  wrap_D_of (table_sound s k hk hs) h

theorem attr_paren {t : List Tok} {v : Expr} (hv : D Lv.primary t v) :
    D Lv.primary (if isDigitToks t then lpar :: t ++ [rpar] else t) v := by
  split
  · exact D.up (D.group hv (by decide)) (by decide)
  · exact hv

theorem ordinary_of_wfE : ∀ (e : Expr), wfE e → (kindOf e).ordinary = true := by
  intro e h
  cases e with
  | formattedValue _ _ _ | starred _ | slice _ _ _ => simp only [wfE] at h
  | _ => rfl

/-- a well-formed child rendered into the ordinary slot `s` stands at the level the grammar has there.
    `s` is explicit: from the expected type alone `slotLv ?s =?= lv` is tried, and fails, before
    `wrap ?s ..` would give `s` away. -/
theorem slot_D (s : Slot) (hs : s.exprSlot = true) {oq : Quote} {e : Expr} (hw : wfE e)
    (h : D (kindLv (kindOf e)) (unparse oq e) e) : D (slotLv s) (wrap s (kindOf e) (unparse oq e)) e :=
  wrap_D (ordinary_of_wfE e hw) hs h

/-- a child in an ordinary slot whose membership in `exprSlot` is decidable by evaluation -/
macro "kid " ih:ident s:term:max e:term:max h:term:max : term =>
  `(wrap_D (s := $s) (ordinary_of_wfE $e $h) (by decide) ($ih _ $e $h))

theorem wrap_of_le {s : Slot} {k : Kind} (h : nodePrec k ≤ slotPrec s) (ts : List Tok) : wrap s k ts = ts :=
  if_neg (Nat.not_lt.mpr h)

theorem wrap_starred {s : Slot} (hs : s ∈ starredSlots) (ts : List Tok) : wrap s .starred ts = ts :=
  wrap_of_le (special_never_wrapped.1 s hs) ts

theorem wrap_slice {s : Slot} (hs : s ∈ sliceSlots) (ts : List Tok) : wrap s .slice ts = ts :=
  wrap_of_le (special_never_wrapped.2.1 s hs) ts

theorem wrap_fv (ts : List Tok) : wrap .jsValue .formattedValue ts = ts :=
  wrap_of_le special_never_wrapped.2.2 ts

theorem specNoBrace_eq : ∀ vs, specNoBrace vs = specLitsNoBrace vs
  | [] => rfl
  | e :: vs => by
      cases e with
      | const c => cases c <;> simp [specNoBrace, specLitsNoBrace, specNoBrace_eq vs]
      | _ => simp [specNoBrace, specLitsNoBrace, specNoBrace_eq vs]

theorem strReads_escape (q : Quote) (cps : List Nat) (h : ∀ c ∈ cps, c < 0x110000) : StrReads q (escape q cps) cps :=
  ⟨cps.length + 1, by simpa using decodeStr_escape q cps [] fun c hc => (unit_ok q (h c hc)).1⟩

theorem fmidReads_escape (q : Quote) (cps : List Nat) (h : ∀ c ∈ cps, c < 0x110000) :
    FmidReads q (doubleBraces (escape q cps)) cps :=
  ⟨escape q cps, undouble_doubleBraces _, strReads_escape q cps h⟩

theorem const_D (q : Quote) (c : Const) (h : wfC c) : D Lv.atom (unparseConst q c) (.const c) := by
  cases c with
  | none => exact D.const LexConst.none
  | true_ => exact D.const LexConst.true_
  | false_ => exact D.const LexConst.false_
  | ellipsis => exact D.const LexConst.ellipsis
  | int n =>
    simp only [wfC] at h
    obtain ⟨m, rfl⟩ := Int.eq_ofNat_of_zero_le h
    simp only [unparseConst]
    rw [if_neg (by omega)]
    exact D.const (LexConst.int m)
  | str cps => exact D.const (LexConst.str q _ _ (strReads_escape q cps h))
  | bytes r => exact D.const (LexConst.repr q (.bytes r) _ nofun nofun rfl)
  | float r | complex r =>
    obtain ⟨t, ht⟩ := h
    show D _ (lexRepr (replaceInf r)) _
    rw [ht]
    exact D.const (LexConst.repr q _ t nofun nofun ht)

theorem length_unparseOptList (s : Slot) (oq : Quote) : ∀ ds, (unparseOptList s oq ds).length = ds.length
  | [] => rfl
  | none :: ds | some _ :: ds => congrArg (· + 1) (length_unparseOptList s oq ds)

theorem unparseArgs_eq (oq : Quote) (po as : List String) (va : Option String) (ko : List String)
    (kd : List (Option Expr)) (kw : Option String) (ds : List Expr) (hk : kd.length = ko.length) :
    unparseArgs oq (.mk po as va ko kd kw ds) =
      joinToks [comma] (posGroup po as (unparseList .lambdaDefault oq ds) ++ starGroup va ko ++
        kwGroup ko (unparseOptList .lambdaKwDefault oq kd) ++ kwargGroup kw) := by
  simp only [unparseArgs, posGroup, starGroup, kwGroup, kwargGroup, length_unparseOptList, hk, Nat.sub_self,
    List.replicate_zero, List.append_nil]
  cases va <;> cases kw <;> rfl

theorem isConstStrE_eq : isConstStrE = isConstStr := by
  funext e
  cases e with
  | const c => cases c <;> rfl
  | _ => rfl

theorem targetKind_lv {t : Expr} (h : targetKind t = true) : kindLv (kindOf t) ≤ Lv.primary := by
  cases t with
  | name _ | list _ | tuple _ => exact Nat.zero_le _
  | «attribute» _ _ | subscript _ _ => exact Nat.le_refl _
  | _ => cases h

mutual
  theorem unparse_D (oq : Quote) : ∀ e, wfE e → D (kindLv (kindOf e)) (unparse oq e) e
    | .name id, _ => D.name id
    | .const c, h => by
        simp only [wfE] at h
        exact const_D _ c h
    | .joinedStr vs, h => by
        simp only [wfE] at h
        exact D.fstring (unparseJoined_D oq.flip vs h)
    | .formattedValue .., h | .starred _, h | .slice .., h => by simp only [wfE] at h
    | .list es, h => by
        simp only [wfE] at h
        exact D.list (unparseList_DElts .listElt oq (by decide) rfl Lv.bitOr (Nat.le_refl _) es h)
    | .set es, h => by
        simp only [wfE] at h
        exact D.set (unparseList_DElts .setElt oq (by decide) rfl Lv.bitOr (Nat.le_refl _) es h.2) h.1
    | .tuple es, h => by
        simp only [wfE] at h
        exact D.tuple (unparseList_DElts .tupleElt oq (by decide) rfl Lv.bitOr (Nat.le_refl _) es h)
    | .dict items, h => by
        simp only [wfE] at h
        exact D.dict (unparseDictItems_D oq items h)
    | .attribute v a, h => by
        simp only [wfE] at h
        exact D.attribute a (attr_paren (slot_D .attrValue rfl h (unparse_D oq v h)))
    | .subscript v s, h => by
        simp only [wfE] at h
        have hv := slot_D .subValue rfl h.1 (unparse_D oq v h.1)
        have hw := h.2
        -- `cases s` comes first: the kernel cannot unfold `unparse oq (.subscript v s)` while the
        -- `match s` inside it is stuck on a variable
        cases s with
        | slice lo up st =>
          simp only [wfSlice] at hw
          show D _ (_ ++ _ ++ wrap .subSlice .slice _ ++ _) _
          rw [wrap_slice (by decide)]
          exact D.subscript hv (DSlices.one (DSliceElt.slice (unparseOpt_D .sliceLower oq rfl rfl lo hw.1)
            (unparseOpt_D .sliceUpper oq rfl rfl up hw.2.1) (unparseOpt_D .sliceStep oq rfl rfl st hw.2.2)) nofun)
        | tuple es =>
          simp only [wfSlice] at hw
          show D _ (if es.any isSlice = true then _ else _) _
          by_cases hany : es.any isSlice = true
          · rw [if_pos hany] at hw
            rw [if_pos hany, List.append_assoc _ _ (ite ..)]
            exact D.subscript hv (DSlices.many (sliceElts_D oq es hw) (by rintro rfl; cases hany))
          · rw [if_neg hany] at hw
            rw [if_neg hany]
            have hw' : wfE (.tuple es) := by simp only [wfE]; exact hw
            exact D.subscript hv (DSlices.one (DSliceElt.plain (slot_D .subSlice rfl hw' (unparse_D oq _ hw'))) nofun)
        | starred _ => simp only [wfSlice] at hw
        | _ =>
          simp only [wfSlice] at hw
          exact D.subscript hv (DSlices.one (DSliceElt.plain (slot_D .subSlice rfl hw (unparse_D oq _ hw))) nofun)
    | .call f args kws, h => by
        simp only [wfE] at h
        have hf := slot_D .callFunc rfl h.1 (unparse_D oq f h.1)
        show D _ (if args.length = 1 ∧ kws.isEmpty then _ else _) _
        split
        · rename_i hc
          match args, kws, hc, h with
          | [a], [], _, h =>
            -- the one argument, taken out of the one-element `DElts`
            cases unparseList_DElts .callOnlyArg oq (by decide) rfl Lv.expression (by decide) [a] h.2.1 with
            | cons ha _ => exact D.callOne hf ha
        · exact D.call hf (unparseList_DElts .callArg oq (by decide) rfl Lv.expression (by decide) args h.2.1)
            (unparseKeywords_D oq kws h.2.2)
    | .binOp l op r, h => by
        simp only [wfE] at h
        show D _ (_ ++ [.op (binOpText op)] ++ _) _
        rw [binOpText_eq]
        exact D.binOp op (slot_D (.binL op) rfl h.1 (unparse_D oq l h.1)) (slot_D (.binR op) rfl h.2 (unparse_D oq r h.2))
    | .boolOp op vs, h => by
        simp only [wfE] at h
        show D _ (joinToks [boolOpTok op] _) _
        rw [boolOpTok_eq]
        exact D.boolOp op (unparseList_DList (.boolVal op) oq rfl vs h.2) h.1
    | .unaryOp op v, h => by
        simp only [wfE] at h
        show D _ ([unaryOpTok op] ++ _) _
        rw [unaryOpTok_eq]
        exact D.unaryOp op (unary_slot_lv op ▸ slot_D (.unary op) rfl h (unparse_D oq v h))
    | .compare l ops cs, h => by
        simp only [wfE] at h
        exact D.compare (slot_D .cmpLeft rfl h.1 (unparse_D oq l h.1)) (unparseCmp_D oq ops cs h.2.1 h.2.2.2) h.2.2.1
    | .ifExp t b e, h => by
        simp only [wfE] at h
        exact D.ifExp (slot_D .ifBody rfl h.2.1 (unparse_D oq b h.2.1)) (slot_D .ifTest rfl h.1 (unparse_D oq t h.1))
          (slot_D .ifOrelse rfl h.2.2 (unparse_D oq e h.2.2))
    | .lambda as b, h => by
        simp only [wfE] at h
        exact D.lambda (unparseArgs_D oq as h.1) (slot_D .lambdaBody rfl h.2 (unparse_D oq b h.2))
    | .namedExpr t v, h => by
        simp only [wfE] at h
        exact D.namedExpr t (slot_D .namedValue rfl h (unparse_D oq v h))
    | .listComp e gs, h => by
        simp only [wfE] at h
        exact D.listComp (slot_D .compElt rfl h.1 (unparse_D oq e h.1)) (unparseComps_D oq gs h.2.2) h.2.1
    | .setComp e gs, h => by
        simp only [wfE] at h
        exact D.setComp (slot_D .compElt rfl h.1 (unparse_D oq e h.1)) (unparseComps_D oq gs h.2.2) h.2.1
    | .generatorExp e gs, h => by
        simp only [wfE] at h
        exact D.genexp (slot_D .compElt rfl h.1 (unparse_D oq e h.1)) (unparseComps_D oq gs h.2.2) h.2.1
    | .dictComp k v gs, h => by
        simp only [wfE] at h
        exact D.dictComp (slot_D .compKey rfl h.1 (unparse_D oq k h.1)) (slot_D .compValue rfl h.2.1 (unparse_D oq v h.2.1))
          (unparseComps_D oq gs h.2.2.2) h.2.2.1
    | .yield_ none, _ => D.yieldNone
    | .yield_ (some v), h => by
        simp only [wfE, wfO] at h
        exact D.yieldSome (slot_D .yieldValue rfl h (unparse_D oq v h))
    | .yieldFrom v, h => by
        simp only [wfE] at h
        exact D.yieldFrom (slot_D .yieldFromValue rfl h (unparse_D oq v h))
    | .await v, h => by
        simp only [wfE] at h
        exact D.await (slot_D .awaitValue rfl h (unparse_D oq v h))

  theorem unparseList_DList (s : Slot) (oq : Quote) (hs : s.exprSlot = true) :
      ∀ es, wfL es → DList (slotLv s) (unparseList s oq es) es
    | [], _ => DList.nil
    | e :: es, h => by
        simp only [wfL] at h
        exact DList.cons (slot_D s hs h.1 (unparse_D oq e h.1)) (unparseList_DList s oq hs es h.2)

  /-- `slv` is the level after `*`: `bitwise_or` in displays, `expression` in call arguments -/
  theorem unparseList_DElts (s : Slot) (oq : Quote) (hs : s ∈ starredSlots) (hse : s.exprSlot = true)
      (slv : Nat) (hslv : Lv.bitOr ≤ slv) :
      ∀ es, wfElts es → DElts (slotLv s) slv (unparseList s oq es) es
    | [], _ => DElts.nil
    | e :: es, h => by
        cases e with
        | starred v =>
          simp only [wfElts] at h
          show DElts _ _ (wrap s .starred _ :: _) _
          rw [wrap_starred hs]
          exact DElts.cons (DElt.star (D.up (slot_D .starredValue rfl h.1 (unparse_D oq v h.1)) hslv))
            (unparseList_DElts s oq hs hse slv hslv es h.2)
        | _ =>
          simp only [wfElts] at h
          exact DElts.cons (DElt.plain (slot_D s hse h.1 (unparse_D oq _ h.1)))
            (unparseList_DElts s oq hs hse slv hslv es h.2)

  theorem sliceElts_D (oq : Quote) : ∀ es, wfSliceElts es → DSliceElts (unparseList .subTupleElt oq es) es
    | [], _ => DSliceElts.nil
    | e :: es, h => by
        cases e with
        | slice lo up st =>
          simp only [wfSliceElts] at h
          show DSliceElts (wrap .subTupleElt .slice _ :: _) _
          rw [wrap_slice (by decide)]
          exact DSliceElts.cons
            (DSliceElt.slice (unparseOpt_D .sliceLower oq rfl rfl lo h.1) (unparseOpt_D .sliceUpper oq rfl rfl up h.2.1)
              (unparseOpt_D .sliceStep oq rfl rfl st h.2.2.1))
            (sliceElts_D oq es h.2.2.2)
        | starred v =>
          simp only [wfSliceElts] at h
          show DSliceElts (wrap .subTupleElt .starred _ :: _) _
          rw [wrap_starred (by decide)]
          exact DSliceElts.cons (DSliceElt.star (D.up (slot_D .starredValue rfl h.1 (unparse_D oq v h.1)) (by decide)))
            (sliceElts_D oq es h.2)
        | _ =>
          simp only [wfSliceElts] at h
          exact DSliceElts.cons (DSliceElt.plain (slot_D .subTupleElt rfl h.1 (unparse_D oq _ h.1))) (sliceElts_D oq es h.2)

  theorem unparseOpt_D (s : Slot) (oq : Quote) (hl : slotLv s = Lv.expression) (hs : s.exprSlot = true) :
      ∀ o, wfO o → DOpt (unparseOpt s oq o) o
    | none, _ => DOpt.none
    | some e, h => by
        simp only [wfO] at h
        exact DOpt.some (hl ▸ slot_D s hs h (unparse_D oq e h))

  theorem unparseJoined_D (q : Quote) : ∀ vs, wfParts vs → DParts q (unparseJoined q vs) vs
    | [], _ => DParts.nil
    | e :: vs, h => by
        cases e with
        | const c =>
          cases c with
          | str cps =>
            simp only [wfParts] at h
            exact DParts.lit (fmidReads_escape q cps h.1) h.2.1 (isConstStrE_eq ▸ h.2.2.1) (unparseJoined_D q vs h.2.2.2)
          | _ => simp only [wfParts] at h
        | formattedValue v conv spec =>
          simp only [wfParts] at h
          show DParts q (wrap .jsValue .formattedValue _ ++ _) _
          rw [wrap_fv]
          exact DParts.field conv (slot_D .fvValue rfl h.1 (unparse_D q v h.1)) h.2.1
            (unparseSpec_D q spec h.2.2.1) (unparseJoined_D q vs h.2.2.2)
        | _ => simp only [wfParts] at h

  theorem unparseSpec_D (q : Quote) : ∀ o, wfSpec o → DSpec q (unparseSpec q o) o
    | none, _ => DSpec.none
    | some e, h => by
        cases e with
        | joinedStr vs =>
          simp only [wfSpec] at h
          exact DSpec.some (unparseJoined_D q vs h.1) (specNoBrace_eq vs ▸ h.2)
        | _ => simp only [wfSpec] at h

  theorem unparseDictItems_D (oq : Quote) : ∀ its, wfItems its → DItems (unparseDictItems oq its) its
    | [], _ => DItems.nil
    | .mk (some k) v :: its, h => by
        simp only [wfItems] at h
        exact DItems.kv (slot_D .dictKey rfl h.1 (unparse_D oq k h.1)) (slot_D .dictValue rfl h.2.1 (unparse_D oq v h.2.1))
          (unparseDictItems_D oq its h.2.2)
    | .mk none v :: its, h => by
        simp only [wfItems] at h
        exact DItems.star (slot_D .dictStarValue rfl h.1 (unparse_D oq v h.1)) (unparseDictItems_D oq its h.2)

  theorem unparseKeywords_D (oq : Quote) : ∀ ks, wfKws ks → DKws (unparseKeywords oq ks) ks
    | [], _ => DKws.nil
    | .mk (some a) v :: ks, h => by
        simp only [wfKws] at h
        exact DKws.kw a (slot_D .callKwValue rfl h.1 (unparse_D oq v h.1)) (unparseKeywords_D oq ks h.2)
    | .mk none v :: ks, h => by
        simp only [wfKws] at h
        exact DKws.star (slot_D .callStarKwValue rfl h.1 (unparse_D oq v h.1)) (unparseKeywords_D oq ks h.2)

  theorem unparseCmp_D (oq : Quote) : ∀ ops cs, ops.length = cs.length → wfL cs → DCmp (unparseCmp oq ops cs) ops cs
    | [], [], _, _ => DCmp.nil
    | [], _ :: _, hl, _ | _ :: _, [], hl, _ => by cases hl
    | op :: ops, c :: cs, hl, h => by
        simp only [wfL] at h
        show DCmp (cmpOpToks op ++ _ ++ _) _ _
        rw [cmpOpToks_eq]
        exact DCmp.cons op (slot_D .cmpRight rfl h.1 (unparse_D oq c h.1)) (unparseCmp_D oq ops cs (Nat.succ.inj hl) h.2)

  theorem unparseComps_D (oq : Quote) : ∀ gs, wfG gs → DComps (unparseComps oq gs) gs
    | [], _ => DComps.nil
    | .mk t i ifs a :: gs, h => by
        simp only [wfG] at h
        exact DComps.cons a (wrap_D_of (fun _ => targetKind_lv h.1) (unparse_D oq t h.2.1))
          (slot_D .compIter rfl h.2.2.1 (unparse_D oq i h.2.2.1)) (unparseIfs_D oq ifs h.2.2.2.1) (unparseComps_D oq gs h.2.2.2.2)

  theorem unparseIfs_D (oq : Quote) : ∀ cs, wfL cs → DIfs (unparseIfs oq cs) cs
    | [], _ => DIfs.nil
    | c :: cs, h => by
        simp only [wfL] at h
        exact DIfs.cons (slot_D .compIf rfl h.1 (unparse_D oq c h.1)) (unparseIfs_D oq cs h.2)

  theorem unparseOptList_D (oq : Quote) : ∀ ds, wfOL ds → DOptList (unparseOptList .lambdaKwDefault oq ds) ds
    | [], _ => DOptList.nil
    | none :: ds, h => by
        simp only [wfOL] at h
        exact DOptList.none (unparseOptList_D oq ds h)
    | some d :: ds, h => by
        simp only [wfOL] at h
        exact DOptList.some (slot_D .lambdaKwDefault rfl h.1 (unparse_D oq d h.1)) (unparseOptList_D oq ds h.2)

  theorem unparseArgs_D (oq : Quote) : ∀ as, wfA as → DParams (unparseArgs oq as) as
    | .mk po as va ko kd kw ds, h => by
        simp only [wfA] at h
        rw [unparseArgs_eq oq po as va ko kd kw ds h.2.1]
        exact DParams.mk (unparseList_DList .lambdaDefault oq rfl ds h.2.2.1) (unparseOptList_D oq kd h.2.2.2) h.1 h.2.1
end

/-- the whole output of the custom unparser derives the tree, at the level `eval` mode expects -/
theorem unparseTop_D (e : Expr) (h : wfE e) : D Lv.expression (unparseTop e) e :=
  slot_D .top rfl h (unparse_D .dq e h)

end OlVerif
