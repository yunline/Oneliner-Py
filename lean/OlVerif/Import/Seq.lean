/-
  M-IMPORT, sequences: a program of import statements run from any import state.  The binding
  environment is an association list, newest binding first (a later `import` of the same name
  shadows the earlier one, as a later store does).
-/
import OlVerif.Import.Model

namespace OlVerif

/-- one binding step of an import statement: `import name [as x]`, or one name of
    `from m import n [as x]` -/
inductive ImpStep
  | imp (name : ModName) (asname : Option String)
  | fromName (m : ModName) (n : String) (asname : Option String)
  deriving Repr, DecidableEq

abbrev ImpEnv := List (String × Obj)

def ImpStep.WF : ImpStep → Prop
  | .imp name _ => name ≠ []
  | .fromName _ _ _ => True

def pyStep (sub : IsSubmodule) (s : ImpSt × ImpEnv) : ImpStep → ImpSt × ImpEnv
  | .imp name a => let r := pyImport s.1 name a; (r.1, (r.2.1, r.2.2) :: s.2)
  | .fromName m n a => let r := pyFromName sub s.1 m n a; (r.1, (r.2.1, r.2.2) :: s.2)

def olStep (sub : IsSubmodule) (s : ImpSt × ImpEnv) : ImpStep → ImpSt × ImpEnv
  | .imp name a => let r := olImport s.1 name a; (r.1, (r.2.1, r.2.2) :: s.2)
  | .fromName m n a => let r := olFromName sub s.1 m n a; (r.1, (r.2.1, r.2.2) :: s.2)

def pyRun (sub : IsSubmodule) (s : ImpSt × ImpEnv) (p : List ImpStep) : ImpSt × ImpEnv := p.foldl (pyStep sub) s
def olRun (sub : IsSubmodule) (s : ImpSt × ImpEnv) (p : List ImpStep) : ImpSt × ImpEnv := p.foldl (olStep sub) s

/-- loading never removes or reorders what is loaded -/
theorem load_prefix (st : ImpSt) (m : ModName) : st.loaded <+: (st.load m).loaded := by
  simp only [ImpSt.load]
  split
  · exact List.prefix_refl _
  · exact List.prefix_append _ _

theorem importChain_prefix (st : ImpSt) (pre name : ModName) : st.loaded <+: (importChain st pre name).loaded := by
  induction name generalizing st pre with
  | nil => exact List.prefix_refl _
  | cons x rest ih => exact List.IsPrefix.trans (load_prefix st _) (ih _ _)

theorem load_nodup (st : ImpSt) (m : ModName) (h : st.loaded.Nodup) : (st.load m).loaded.Nodup := by
  rw [ImpSt.load]
  split
  · exact h
  · rename_i hc
    refine List.nodup_append.mpr ⟨h, List.nodup_cons.mpr ⟨List.not_mem_nil, List.nodup_nil⟩, fun a ha b hb e => hc ?_⟩
    rw [List.mem_singleton.mp hb] at e
    exact List.contains_iff_mem.mpr (e ▸ ha)

theorem importChain_nodup (st : ImpSt) (pre name : ModName) (h : st.loaded.Nodup) :
    (importChain st pre name).loaded.Nodup := by
  induction name generalizing st pre with
  | nil => exact h
  | cons x rest ih => exact ih _ _ (load_nodup st _ h)

end OlVerif
