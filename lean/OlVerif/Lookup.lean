/-
  Association lists read with `List.lookup`: the one rewriting step the dictionary (C12), file-system (C16)
  and environment models share.
-/
namespace OlVerif

/-- `lookup` past one entry, with the test as a proposition instead of a `match` on `==` -/
theorem lookup_cons_ite {α β : Type} [BEq α] [LawfulBEq α] [DecidableEq α] (k k' : α) (v : β) (l : List (α × β)) :
    ((k', v) :: l).lookup k = if k = k' then some v else l.lookup k := by
  rw [List.lookup_cons]
  split <;> rename_i h
  · rw [if_pos (eq_of_beq h)]
  · rw [if_neg (ne_of_beq_false h)]

end OlVerif
