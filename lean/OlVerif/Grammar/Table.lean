/-
  The code's precedence ladder against the grammar's levels: the finite table facts, each
  evaluated once by the kernel on the regenerated tables.
-/
import OlVerif.Grammar.Levels

namespace OlVerif

theorem mem_allBinOps (op : BinOpK) : op ∈ allBinOps := by cases op <;> decide

theorem mem_allSlots (s : Slot) : s ∈ allSlots := by
  cases s with
  | binL op | binR op => simp [allSlots, mem_allBinOps]
  | boolVal op | unary op => cases op <;> decide
  | _ => decide

theorem mem_allKinds (k : Kind) : k ∈ allKinds := by
  cases k with
  | binOp op => simp [allKinds, mem_allBinOps]
  | boolOp op | unaryOp op => cases op <;> decide
  | _ => decide

theorem tableViolations_empty : tableViolations = [] := by decide +kernel

/-- a violating pair would be listed in `tableViolations`, which evaluates to `[]` -/
theorem table_sound (s : Slot) (k : Kind) (hk : k.ordinary = true) (hs : s.exprSlot = true)
    (h : nodePrec k ≤ slotPrec s) : kindLv k ≤ slotLv s := by
  apply Decidable.byContradiction
  intro hn
  have : (s, k) ∈ tableViolations :=
    List.mem_flatMap.mpr ⟨s, mem_allSlots s, List.mem_map.mpr
      ⟨k, List.mem_filter.mpr ⟨mem_allKinds k, by simp [hk, hs, h, hn]⟩, rfl⟩⟩
  rw [tableViolations_empty] at this
  cases this

theorem kindLv_le (k : Kind) : kindLv k ≤ Lv.yieldExpr :=
  (by decide : ∀ k ∈ allKinds, kindLv k ≤ Lv.yieldExpr) k (mem_allKinds k)

theorem special_never_wrapped :
    (∀ s ∈ starredSlots, nodePrec .starred ≤ slotPrec s) ∧
    (∀ s ∈ sliceSlots, nodePrec .slice ≤ slotPrec s) ∧
    nodePrec .formattedValue ≤ slotPrec .jsValue := by
  decide

end OlVerif
