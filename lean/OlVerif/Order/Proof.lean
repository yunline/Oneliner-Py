/-
  Evaluation order of the lowered simple statements (C07): what `tr` computes on each template, then one
  theorem per statement kind and the theorem for whole programs; Props/C07.lean restates them.
-/
import OlVerif.Order.Trace
import OlVerif.Lower.Lowers
import OlVerif.Lower.ModuleId


namespace OlVerif

/-! ### the trace function on the shapes the templates use -/

theorem tr_P (ρ : Expr → Bool) (k : Nat) : tr ρ (P k) = [k] := by
  simp [P, tr, probeName]

/-- a call whose callee is not the probe function: callee, arguments, keywords -/
theorem tr_call (ρ : Expr → Bool) (f : Expr) (as : List Expr) (ks : List Keyword)
    (h : ∀ x, f = .name x → x ≠ probeName) :
    tr ρ (.call f as ks) = tr ρ f ++ trL ρ as ++ trK ρ ks := by
  by_cases hp : ∃ x k, f = .name x ∧ as = [.const (.int k)] ∧ ks = []
  · obtain ⟨x, k, rfl, rfl, rfl⟩ := hp
    simp [tr, trL, trK, h x rfl]
  · rw [tr.eq_2]
    exact fun x k h1 h2 h3 => hp ⟨x, k, h1, h2, h3⟩

theorem tr_name_call (ρ : Expr → Bool) (f : String) (as : List Expr) (hf : f ≠ probeName) :
    tr ρ (.call (.name f) as []) = trL ρ as := by
  rw [tr_call ρ _ _ _ (by intro x hx; cases hx; exact hf)]
  simp [tr, trK]

theorem tr_str (ρ : Expr → Bool) (s : String) : tr ρ (Expr.str s) = [] := by simp [Expr.str, tr]
theorem tr_intConstant (ρ : Expr → Bool) (v : Int) : tr ρ (intConstant v) = [] := by
  unfold intConstant; split <;> simp [tr]

theorem trL_append (ρ : Expr → Bool) : ∀ (a b : List Expr), trL ρ (a ++ b) = trL ρ a ++ trL ρ b
  | [], b => by simp [trL]
  | x :: a, b => by simp [trL, trL_append ρ a b]

/-! ### assignment targets built from probes -/

/-- a source assignment target whose object / index / bound expressions are probes -/
inductive Tgt
  | name (x : String)
  | attr (o : Nat) (a : String)
  | sub (o i : Nat)
  | subSlice (o : Nat) (lo hi st : Option Nat)
  | tuple (ts : List Tgt)
  | list (ts : List Tgt)
  | star (t : Tgt)

mutual
  def Tgt.toExpr : Tgt → Expr
    | .name x => .name x
    | .attr o a => .attribute (P o) a
    | .sub o i => .subscript (P o) (P i)
    | .subSlice o lo hi st => .subscript (P o) (.slice (lo.map P) (hi.map P) (st.map P))
    | .tuple ts => .tuple (Tgt.toExprs ts)
    | .list ts => .list (Tgt.toExprs ts)
    | .star t => .starred t.toExpr
  def Tgt.toExprs : List Tgt → List Expr
    | [] => []
    | t :: ts => t.toExpr :: Tgt.toExprs ts
end

mutual
  /-- Python's order for the target itself: object, then index / bounds; elements left to right -/
  def Tgt.order : Tgt → List Nat
    | .name _ => []
    | .attr o _ => [o]
    | .sub o i => [o, i]
    | .subSlice o lo hi st => o :: (lo.toList ++ hi.toList ++ st.toList)
    | .tuple ts => Tgt.orders ts
    | .list ts => Tgt.orders ts
    | .star t => t.order
  def Tgt.orders : List Tgt → List Nat
    | [] => []
    | t :: ts => t.order ++ Tgt.orders ts
end

/-- what the emitted stores of a target do, given what its value expression does (`vs`):
    a name or a pattern takes the value first; an attribute / subscript store evaluates the
    target's own parts and then the value -/
def Tgt.emitOrder (vs : List Nat) : Tgt → List Nat
  | .name _ => vs
  | .attr o _ => o :: vs
  | .sub o i => o :: i :: vs
  | .subSlice o lo hi st => o :: (lo.toList ++ hi.toList ++ st.toList) ++ vs
  | .tuple ts => vs ++ Tgt.orders ts
  | .list ts => vs ++ Tgt.orders ts
  | .star t => t.emitOrder vs

theorem Tgt.emitOrder_nil : ∀ (t : Tgt), t.emitOrder [] = t.order
  | .name _ | .attr _ _ | .sub _ _ => rfl
  | .subSlice .. | .tuple _ | .list _ => by simp [Tgt.emitOrder, Tgt.order]
  | .star t => by simp only [Tgt.emitOrder, Tgt.order]; exact Tgt.emitOrder_nil t

theorem tr_convertSlice_P (ρ : Expr → Bool) (lo hi st : Option Nat) :
    tr ρ (convertSlice (lo.map P) (hi.map P) (st.map P)) = lo.toList ++ hi.toList ++ st.toList := by
  unfold convertSlice
  rw [tr_name_call ρ _ _ (by decide)]
  cases lo <;> cases hi <;> cases st <;> simp [trL, tr_P, Expr.none_, tr, Option.getD]

theorem tr_eltValue (ρ : Expr → Bool) (tmp : String) (len index : Nat) (hs : Bool) (e : Expr) :
    tr ρ (eltValue tmp len index hs e) = [] := by
  unfold eltValue
  split
  · rw [tr_name_call ρ "list" _ (by decide)]
    simp only [trL, tr, trO, List.append_nil]
    split <;> simp [trO, tr_intConstant]
  · simp [tr, tr_intConstant]

def Tgt.emitOrders (vs : List Nat) : List Tgt → List Nat
  | [] => []
  | t :: ts => t.emitOrder vs ++ Tgt.emitOrders vs ts

theorem Tgt.emitOrders_nil : ∀ (ts : List Tgt), Tgt.emitOrders [] ts = Tgt.orders ts
  | [] => rfl
  | t :: ts => by simp [Tgt.emitOrders, Tgt.orders, Tgt.emitOrder_nil, Tgt.emitOrders_nil ts]

mutual
  theorem Assigns.order (ρ : Expr → Bool) (n : Nsp) (hn : n.kind = .module) :
      ∀ (t : Tgt) {inP : Bool} {v : Expr} {st st' : St} {es : List Expr},
        Assigns n inP t.toExpr v st es st' → trL ρ es = t.emitOrder (tr ρ v)
    | .name x, _, v, _, _, _, h => by
        cases h with
        | name hr =>
          cases (getAssign_module hn x v).symm.trans hr
          simp [trL, tr, Tgt.emitOrder]
    | .attr o a, _, _, _, _, _, h => by
        cases h with
        | «attribute» ho =>
          cases transf_module_id n hn _ _ _ ho
          simp [trL, tr_name_call ρ "setattr" _ (by decide), tr_P, tr_str, Tgt.emitOrder]
    | .sub o i, _, _, _, _, _, h => by
        cases h with
        | subscript ho hi =>
          cases transf_module_id n hn _ _ _ ho
          cases transf_module_id n hn _ _ _ hi
          simp [trL, tr, trK, convertIndex, P, Tgt.emitOrder, probeName]
    | .subSlice o lo hi st0, _, _, _, _, _, h => by
        cases h with
        | subscript ho hi =>
          cases transf_module_id n hn _ _ _ ho
          cases transf_module_id n hn _ _ _ hi
          simp [trL, tr, tr_P, trK, convertIndex, tr_convertSlice_P, Tgt.emitOrder]
    | .tuple ts, _, _, _, _, _, h => by
        cases h with
        | tuple hr =>
          have := AssignsElts.order ρ n hn ts [] (tr_eltValue ρ _ _) hr
          simp [trL, unpackHead, tr, tr_name_call ρ "tuple" _ (by decide), this, Tgt.emitOrder, Tgt.emitOrders_nil]
    | .list ts, _, _, _, _, _, h => by
        cases h with
        | list hr =>
          have := AssignsElts.order ρ n hn ts [] (tr_eltValue ρ _ _) hr
          simp [trL, unpackHead, tr, tr_name_call ρ "tuple" _ (by decide), this, Tgt.emitOrder, Tgt.emitOrders_nil]
    | .star t, _, _, _, _, _, h => by
        cases h with
        | starred h' => exact Assigns.order ρ n hn t h'

  /-- the targets of a list, each receiving a value that evaluates `vs` -/
  theorem AssignsElts.order (ρ : Expr → Bool) (n : Nsp) (hn : n.kind = .module) :
      ∀ (ts : List Tgt) (vs : List Nat) {inP : Bool} {val : Nat → Bool → Expr → Expr} {index : Nat} {hs : Bool} {st st' : St}
        {es : List Expr}, (∀ i s e, tr ρ (val i s e) = vs) →
        AssignsElts n inP val index hs (Tgt.toExprs ts) st es st' → trL ρ es = Tgt.emitOrders vs ts
    | [], _, _, _, _, _, _, _, _, _, h => by cases h; rfl
    | t :: ts, vs, _, _, _, _, _, _, _, hv, h => by
        cases h with
        | cons ha hb _ =>
          simp only [trL_append, Assigns.order ρ n hn t ha, hv, AssignsElts.order ρ n hn ts vs hv hb, Tgt.emitOrders]
end

theorem assignElts_order (ρ : Expr → Bool) (n : Nsp) (hn : n.kind = .module) :
    ∀ (ts : List Tgt) (tmp : String) (len index : Nat) (hs : Bool) (st : St) (es : List Expr) (st' : St),
      assignElts n tmp len index hs (Tgt.toExprs ts) st = .ok (es, st') → trL ρ es = Tgt.orders ts :=
  fun ts tmp len index hs st es st' h =>
    (AssignsElts.order ρ n hn ts [] (tr_eltValue ρ tmp len) (assignElts_graph n tmp len index hs _ st es st' h)).trans
      (Tgt.emitOrders_nil ts)


/-! ### statements -/

theorem Tgt.length_toExprs : ∀ (ts : List Tgt), (Tgt.toExprs ts).length = ts.length
  | [] => rfl
  | _ :: ts => by simp [Tgt.toExprs, Tgt.length_toExprs ts]

/-- **Assignment**: the value first, then every target from left to right, each evaluating its
    object and index / bound expressions in order; any number of chained targets, any nesting of
    tuple / list patterns with starred elements. -/
theorem assign_order (ρ : Expr → Bool) (cx : Ctx) (hn : cx.nsp.kind = .module) (ts : List Tgt) (hts : ts ≠ [])
    (v : Nat) (st : St) (es : List Expr) (st' : St)
    (h : lowerStmt cx (.assign (Tgt.toExprs ts) (P v)) st = .ok (es, st')) :
    trL ρ es = v :: Tgt.orders ts := by
  cases lowerStmt_graph _ _ _ _ _ h with
  | assignTmp hr hv _ =>
    cases transf_module_id _ hn _ _ _ hv
    have := AssignsElts.order ρ cx.nsp hn ts [] (fun _ _ _ => rfl) hr
    simp [trL, tr, tr_P, this, Tgt.emitOrders_nil]
  | assign hr hv hc =>
    cases transf_module_id _ hn _ _ _ hv
    rw [AssignsElts.order ρ cx.nsp hn ts [v] (fun _ _ _ => tr_P ρ v) hr]
    match ts, hts, hc, hr with
    | [t], _, hc, hr =>
      simp only [Tgt.emitOrders, Tgt.orders, List.append_nil]
      cases t with
      | name x => rfl
      | attr o a | sub o i | subSlice o lo hi st0 => simp [Tgt.toExprs, Tgt.toExpr, needsTmp] at hc
      | tuple ts' | list ts' => simp [Tgt.emitOrder, Tgt.order]
      | star t' => cases hr.single  -- a star outside a pattern is refused
    | t1 :: t2 :: rest, _, hc, _ => simp [Tgt.toExprs, needsTmp] at hc

/-- **Annotated assignment with a value**: the value, then the target's parts (the annotation is
    not evaluated by the emitted code: KF-D33). -/
theorem annAssign_order (ρ : Expr → Bool) (cx : Ctx) (hn : cx.nsp.kind = .module) (t : Tgt) (ann : Expr)
    (v : Nat) (st : St) (es : List Expr) (st' : St)
    (h : lowerStmt cx (.annAssign t.toExpr ann (some (P v))) st = .ok (es, st')) :
    trL ρ es = v :: t.order := by
  rw [lowerStmt_annAssign] at h
  simpa [Tgt.orders] using assign_order ρ cx hn [t] (by simp) v st es st' h

theorem tr_augAssignExpr (ρ : Expr → Bool) (t : Expr) (op : BinOpK) (v : Expr) :
    tr ρ (augAssignExpr t op v) = tr ρ t ++ tr ρ v := by
  unfold augAssignExpr
  rw [tr_call ρ _ _ _ (by intro y hy; cases hy)]
  simp [tr, tr_name_call ρ "__import__" _ (by decide), trL, tr_str, trK]

theorem trL_augAttrT (ρ : Expr → Bool) (tmp obj : String) (parent : Expr) (a : String) (op : BinOpK) (v : Expr) :
    trL ρ (augAttrT tmp obj parent a op v) = tr ρ parent ++ tr ρ v := by
  simp [augAttrT, trL, tr, trK, tr_str, tr_augAssignExpr]

theorem trL_augSubT (ρ : Expr → Bool) (tmp sl obj : String) (parent idx : Expr) (op : BinOpK) (v : Expr) :
    trL ρ (augSubT tmp sl obj parent idx op v) = tr ρ parent ++ tr ρ idx ++ tr ρ v := by
  simp [augSubT, trL, tr, trK, tr_augAssignExpr]

/-- **Augmented assignment to a name** (all 13 operators): the operand, once. -/
theorem augAssign_name_order (ρ : Expr → Bool) (cx : Ctx) (hn : cx.nsp.kind = .module) (x : String) (op : BinOpK)
    (v : Nat) (st : St) (es : List Expr) (st' : St)
    (h : lowerStmt cx (.augAssign (.name x) op (P v)) st = .ok (es, st')) : trL ρ es = [v] := by
  cases lowerStmt_graph _ _ _ _ _ h with
  | augAssign ha hv =>
    cases transf_module_id _ hn _ _ _ hv
    cases ha with
    | name ht hr =>
      cases ht.symm.trans (getLoad_module hn [] x)
      cases hr.symm.trans (getAssign_module hn x _)
      simp [trL, tr, tr_augAssignExpr, tr_P]

/-- **Augmented assignment to an attribute**: the object, then the operand, each once. -/
theorem augAssign_attr_order (ρ : Expr → Bool) (cx : Ctx) (hn : cx.nsp.kind = .module) (o : Nat) (a : String)
    (op : BinOpK) (v : Nat) (st : St) (es : List Expr) (st' : St)
    (h : lowerStmt cx (.augAssign (.attribute (P o) a) op (P v)) st = .ok (es, st')) : trL ρ es = [o, v] := by
  cases lowerStmt_graph _ _ _ _ _ h with
  | augAssign ha hv =>
    cases transf_module_id _ hn _ _ _ hv
    cases ha with
    | «attribute» hp =>
      cases transf_module_id _ hn _ _ _ hp
      simp [trL_augAttrT, tr_P]

/-- **Augmented assignment to a subscript**: the object, the index, then the operand, each once. -/
theorem augAssign_sub_order (ρ : Expr → Bool) (cx : Ctx) (hn : cx.nsp.kind = .module) (o i : Nat)
    (op : BinOpK) (v : Nat) (st : St) (es : List Expr) (st' : St)
    (h : lowerStmt cx (.augAssign (.subscript (P o) (P i)) op (P v)) st = .ok (es, st')) : trL ρ es = [o, i, v] := by
  cases lowerStmt_graph _ _ _ _ _ h with
  | augAssign ha hv =>
    cases transf_module_id _ hn _ _ _ hv
    cases ha with
    | subscript hp hi =>
      cases transf_module_id _ hn _ _ _ hp
      cases transf_module_id _ hn _ _ _ hi
      have : convertIndex (P i) = P i := rfl
      simp [trL_augSubT, this, tr_P]

/-- an expression statement evaluates its expression, once -/
theorem expr_order (ρ : Expr → Bool) (cx : Ctx) (hn : cx.nsp.kind = .module) (v : Nat) (st : St)
    (es : List Expr) (st' : St) (h : lowerStmt cx (.expr (P v)) st = .ok (es, st')) : trL ρ es = [v] := by
  cases lowerStmt_graph _ _ _ _ _ h with
  | expr hv => cases transf_module_id _ hn _ _ _ hv; simp [trL, tr_P]


/-! ### function definitions: decorators top to bottom, then defaults, then keyword-only defaults -/

theorem trL_P (ρ : Expr → Bool) : ∀ (ks : List Nat), trL ρ (ks.map P) = ks
  | [] => by simp [trL]
  | k :: ks => by simp [trL, tr_P, trL_P ρ ks]

def optOrder : List (Option Nat) → List Nat
  | [] => []
  | none :: ks => optOrder ks
  | some k :: ks => k :: optOrder ks

theorem trOL_P (ρ : Expr → Bool) : ∀ (ks : List (Option Nat)), trOL ρ (ks.map (Option.map P)) = optOrder ks
  | [] => by simp [trOL, optOrder]
  | none :: ks => by simp [trOL, optOrder, trOL_P ρ ks]
  | some k :: ks => by simp [trOL, optOrder, tr_P, trOL_P ρ ks]

theorem tr_decorate (ρ : Expr → Bool) (body : Expr) : ∀ (ds : List Nat),
    tr ρ (decorate (ds.map P) body) = ds ++ tr ρ body
  | [] => rfl
  | d :: ds => by
      show tr ρ (.call (P d) [decorate (ds.map P) body] []) = _
      rw [tr_call ρ _ _ _ (by intro x hx; simp [P] at hx), tr_P]
      simp [trL, trK, tr_decorate ρ body ds]

theorem tr_hookWrap (ρ : Expr → Bool) (f : Expr) : tr ρ (hookWrap f) = tr ρ f := by
  unfold hookWrap
  rw [tr_call ρ _ _ _ (by intro x hx; cases hx)]
  simp [tr, trL, trK, trOL, Arguments.simple]

theorem tr_hookIf (ρ : Expr → Bool) (inner : Nsp) (name : String) (lam : Expr) :
    tr ρ (hookIf inner name lam) = tr ρ lam := by
  unfold hookIf; split
  · exact tr_hookWrap ρ lam
  · rfl

/-- the body of the lambda runs at call time: only the defaults are evaluated -/
theorem tr_defLambda (ρ : Expr → Bool) (cfg : Cfg) (inner : Nsp) (fnUsed : Bool) (po as : List String)
    (va : Option String) (ko : List String) (kd : List (Option Expr)) (kw : Option String) (ds b : List Expr) :
    tr ρ (defLambda cfg inner fnUsed (.mk po as va ko kd kw ds) b) = trL ρ ds ++ trOL ρ kd := by
  simp only [defLambda, tr]

/-- **Function definition**: the decorator expressions from top to bottom, then the positional
    defaults from left to right, then the keyword-only defaults; nothing of the body. -/
theorem functionDef_order (ρ : Expr → Bool) (cx : Ctx) (hn : cx.nsp.kind = .module)
    (name : String) (po as : List String) (va : Option String) (ko : List String) (kd : List (Option Nat))
    (kw : Option String) (ds : List Nat) (body : List Stmt) (decos : List Nat) (lineno : Nat)
    (st : St) (es : List Expr) (st' : St)
    (h : lowerStmt cx (.functionDef name (.mk po as va ko (kd.map (Option.map P)) kw (ds.map P)) body (decos.map P) lineno) st
      = .ok (es, st')) :
    trL ρ es = decos ++ ds ++ optOrder kd := by
  cases lowerStmt_graph _ _ _ _ _ h with
  | functionDef _ hds hkd hdec _ he =>
    cases transfList_module_id _ hn _ _ _ hds
    cases transfOptList_module_id _ hn _ _ _ hkd
    cases transfList_module_id _ hn _ _ _ hdec
    cases he.symm.trans (getAssign_module hn name _)
    simp only [trL, tr, List.append_nil]
    rw [tr_hookIf, tr_decorate, tr_defLambda, trL_P, trOL_P, List.append_assoc]


/-! ### whole programs of simple statements -/

theorem tr_foldl_call (ρ : Expr → Bool) : ∀ (es : List Expr) (acc : Expr), (∀ x, acc ≠ .name x) →
    tr ρ (es.foldl (fun acc x => .call acc [x] []) acc) = tr ρ acc ++ trL ρ es
  | [], acc, _ => by simp [trL]
  | e :: es, acc, hacc => by
      simp only [List.foldl]
      rw [tr_foldl_call ρ es _ (by intro x hx; cases hx)]
      rw [tr_call ρ acc [e] [] (by intro x hx; exact absurd hx (hacc x))]
      simp [trL, trK, List.append_assoc]

theorem tr_chainRunner (ρ : Expr → Bool) : tr ρ chainRunner = [] := by
  unfold chainRunner
  rw [tr_call ρ _ _ _ (by intro x hx; cases hx)]
  simp [tr, trL, trK, trOL, Arguments.empty]

/-- **Both wrappers evaluate the statement expressions in order, each once.** -/
theorem tr_wrapExprs (ρ : Expr → Bool) (cfg : Cfg) (es : List Expr) : tr ρ (wrapExprs cfg es) = trL ρ es := by
  match es with
  | [] => simp [wrapExprs, Expr.ellipsis, tr, trL]
  | [e] => simp [wrapExprs, trL]
  | e1 :: e2 :: rest =>
    simp only [wrapExprs]
    split
    · simp [listWrapper, tr]
    · simp only [chainCallWrapper]
      rw [tr_foldl_call ρ _ _ (by intro x hx; cases hx)]
      rw [tr_call ρ chainRunner [e1] [] (by intro x hx; simp [chainRunner] at hx)]
      simp [tr_chainRunner, trL, trK]

/-- a statement whose subexpressions are probes -/
inductive PStmt
  | assign (ts : List Tgt) (v : Nat)
  | ann (t : Tgt) (annotation : Expr) (v : Nat)
  | augName (x : String) (op : BinOpK) (v : Nat)
  | augAttr (o : Nat) (a : String) (op : BinOpK) (v : Nat)
  | augSub (o i : Nat) (op : BinOpK) (v : Nat)
  | expr (v : Nat)
  | def_ (name : String) (po as : List String) (va : Option String) (ko : List String) (kd : List (Option Nat))
      (kw : Option String) (ds : List Nat) (body : List Stmt) (decos : List Nat) (lineno : Nat)

def PStmt.toStmt : PStmt → Stmt
  | .assign ts v => .assign (Tgt.toExprs ts) (P v)
  | .ann t a v => .annAssign t.toExpr a (some (P v))
  | .augName x op v => .augAssign (.name x) op (P v)
  | .augAttr o a op v => .augAssign (.attribute (P o) a) op (P v)
  | .augSub o i op v => .augAssign (.subscript (P o) (P i)) op (P v)
  | .expr v => .expr (P v)
  | .def_ name po as va ko kd kw ds body decos lineno =>
      .functionDef name (.mk po as va ko (kd.map (Option.map P)) kw (ds.map P)) body (decos.map P) lineno

/-- Python's evaluation order for the statement (language reference 7.2, 7.2.1, 7.2.2, 8.7) -/
def PStmt.order : PStmt → List Nat
  | .assign ts v => v :: Tgt.orders ts
  | .ann t _ v => v :: t.order
  | .augName _ _ v => [v]
  | .augAttr o _ _ v => [o, v]
  | .augSub o i _ v => [o, i, v]
  | .expr v => [v]
  | .def_ _ _ _ _ _ kd _ ds _ decos _ => decos ++ ds ++ optOrder kd

def PStmt.ok : PStmt → Prop
  | .assign ts _ => ts ≠ []
  | _ => True

theorem pstmt_order (ρ : Expr → Bool) (cx : Ctx) (hn : cx.nsp.kind = .module) (p : PStmt) (hp : p.ok)
    (st : St) (es : List Expr) (st' : St) (h : lowerStmt cx p.toStmt st = .ok (es, st')) : trL ρ es = p.order := by
  cases p with
  | assign ts v => exact assign_order ρ cx hn ts hp v st es st' h
  | ann t a v => exact annAssign_order ρ cx hn t a v st es st' h
  | augName x op v => exact augAssign_name_order ρ cx hn x op v st es st' h
  | augAttr o a op v => exact augAssign_attr_order ρ cx hn o a op v st es st' h
  | augSub o i op v => exact augAssign_sub_order ρ cx hn o i op v st es st' h
  | expr v => exact expr_order ρ cx hn v st es st' h
  | def_ name po as va ko kd kw ds body decos lineno =>
    exact functionDef_order ρ cx hn name po as va ko kd kw ds body decos lineno st es st' h

def PStmt.orders : List PStmt → List Nat
  | [] => []
  | p :: ps => p.order ++ PStmt.orders ps

theorem goModule_order (ρ : Expr → Bool) (cx : Ctx) (hn : cx.nsp.kind = .module) :
    ∀ (ps : List PStmt), (∀ p ∈ ps, p.ok) → ∀ (st : St) (es : List Expr) (st' : St),
      lowerFull.goModule cx (ps.map PStmt.toStmt) st = .ok (es, st') → trL ρ es = PStmt.orders ps
  | [], _, st, es, st', h => by simp only [List.map, lowerFull.goModule] at h; cases h; simp [trL, PStmt.orders]
  | p :: ps, hok, st, es, st', h => by
      simp only [List.map, lowerFull.goModule] at h
      obtain ⟨⟨a, st1⟩, ha, h⟩ := bind_ok h
      obtain ⟨⟨b, st2⟩, hb, h⟩ := bind_ok h
      cases pure_ok h
      rw [trL_append, pstmt_order ρ cx hn p (hok p (by simp)) st a st1 ha,
        goModule_order ρ cx hn ps (fun q hq => hok q (by simp [hq])) st1 b st2 hb]
      rfl

theorem tr_importHelper (ρ : Expr → Bool) (m : String) : tr ρ (importHelper m) = [] := by
  simp [importHelper, tr, tr_name_call ρ "__import__" _ (by decide), trL, tr_str]

theorem tr_iterWrapperBody (ρ : Expr → Bool) : tr ρ iterWrapperBody = [] := by
  simp [iterWrapperBody, iterWrapperName, tr, trL, trK, trD, trOL, Arguments.simple, Expr.str, Expr.neg1, Expr.none_,
    Expr.false_]

theorem trL_prelude (ρ : Expr → Bool) (st : St) (b : List Expr) : trL ρ (prelude st b) = trL ρ b := by
  unfold prelude
  split <;> split <;> split <;> simp [trL, tr_importHelper, tr_iterWrapperBody]

/-- **Whole programs.**  For a module made of such statements, the one expression the conversion
    returns evaluates every probe of the program exactly once, in Python's order - under either
    wrapper, either if-style, for every oracle. -/
theorem program_order (ρ : Expr → Bool) (cfg : Cfg) (root : SymScope) (ps : List PStmt) (hok : ∀ p ∈ ps, p.ok)
    (e : Expr) (h : lowerFull cfg root (ps.map PStmt.toStmt) = .ok e) : tr ρ e = PStmt.orders ps := by
  obtain ⟨g, sup, b, st, hg, hb, rfl⟩ := lowerFull_ok h
  have hbo := goModule_order ρ ⟨cfg, g, [], false⟩ (generateNsp_kind hg) ps hok _ b st hb
  rw [tr_wrapExprs, trL_prelude, hbo]

end OlVerif
