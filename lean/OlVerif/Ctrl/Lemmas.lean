/-
  The skeleton by itself.  What the analysis pass computes (`hasRet`, `hasBC`, `hasBreakL`,
  `anyIntL`, `guardsIn*`) obeys a few implications; an execution produces a signal only where the
  analysis sees its cause (`Poss`, `exec_poss`).  Nothing here mentions the target.
-/
import OlVerif.Ctrl.Sem

namespace OlVerif.Ctrl

/-! ### the analysis pass -/

mutual
  theorem hasBC_mono (s : Sk) : hasBC true s = true → hasBC false s = true := by
    cases s with
    | ite c t e =>
      simp only [hasBC, Bool.or_eq_true]
      intro h
      rcases h with h | h
      · exact Or.inl (hasBCL_mono t h)
      · exact Or.inr (hasBCL_mono e h)
    | whl c b e | for_ c b e => simp only [hasBC]; exact hasBCL_mono e
    | atom i | pass | brk | cont | ret v => simp [hasBC]
  theorem hasBCL_mono (b : List Sk) : hasBCL true b = true → hasBCL false b = true := by
    cases b with
    | nil => simp [hasBCL]
    | cons s ss =>
      simp only [hasBCL, Bool.or_eq_true, Bool.and_eq_true]
      intro h
      rcases h with h | ⟨h1, h2⟩
      · exact Or.inl (hasBC_mono s h)
      · exact Or.inr ⟨h1, hasBCL_mono ss h2⟩
end

theorem or_or_or_comm (a b c d : Bool) : (a || b || (c || d)) = (a || c || (b || d)) := by
  rw [Bool.or_assoc, Bool.or_assoc, Bool.or_left_comm b]

theorem hasBreakL_eq (b : List Sk) : hasBreakL b = (hasRetL b || hasBCL true b) := by
  induction b with
  | nil => rfl
  | cons s ss ih =>
    simp only [hasBreakL, hasRetL, hasBCL, ih, Bool.and_or_distrib_left]
    exact or_or_or_comm _ _ _ _

theorem anyIntL_eq (b : List Sk) : anyIntL b = (hasRetL b || hasBCL false b) := by
  induction b with
  | nil => rfl
  | cons s ss ih =>
    simp only [anyIntL, hasRetL, hasBCL, mayInt, ih, Bool.and_or_distrib_left]
    exact or_or_or_comm _ _ _ _

theorem hasRetL_hasBreakL (b : List Sk) : hasRetL b = true → hasBreakL b = true := by
  intro h
  rw [hasBreakL_eq, h, Bool.true_or]

theorem hasBCL_hasBreakL (b : List Sk) : hasBCL true b = true → hasBreakL b = true := by
  intro h
  rw [hasBreakL_eq, h, Bool.or_true]

theorem hasRetL_anyIntL (b : List Sk) : hasRetL b = true → anyIntL b = true := by
  intro h
  rw [anyIntL_eq, h, Bool.true_or]

theorem hasBCL_anyIntL (b : List Sk) : hasBCL false b = true → anyIntL b = true := by
  intro h
  rw [anyIntL_eq, h, Bool.or_true]

theorem hasBreakL_anyIntL (b : List Sk) : hasBreakL b = true → anyIntL b = true := by
  rw [hasBreakL_eq, anyIntL_eq, Bool.or_eq_true, Bool.or_eq_true]
  exact Or.imp_right (hasBCL_mono b)

mutual
  theorem guardsInS_mayInt (s : Sk) : guardsInS .loop s = true → (hasRet s || hasBC false s) = true := by
    cases s with
    | ite c t e =>
      simp only [guardsInS, hasRet, hasBC, Bool.or_eq_true]
      intro h
      have := h.imp (guardsInL_int t) (guardsInL_int e)
      simp only [Bool.or_eq_true] at this
      rcases this with (h | h) | (h | h) <;> simp [h]
    | whl c b e | for_ c b e =>
      simp only [guardsInS, hasRet, hasBC, Bool.or_eq_true]
      intro h
      have := guardsInL_int e h
      simp only [Bool.or_eq_true] at this
      rcases this with h | h <;> simp [h]
    | atom i | pass | brk | cont | ret v => simp [guardsInS]
  theorem guardsInL_int (b : List Sk) : guardsInL .loop b = true → (hasRetL b || hasBCL false b) = true := by
    cases b with
    | nil => simp [guardsInL]
    | cons s ss =>
      simp only [guardsInL, hasRetL, hasBCL]
      cases hd : s.isDirect
      · simp only [Bool.false_eq_true, ↓reduceIte, Bool.or_eq_true, Bool.and_eq_true, Bool.not_false, Bool.true_and]
        intro h
        have : (hasRet s = true ∨ hasBC false s = true) ∨ hasRetL ss = true ∨ hasBCL false ss = true := by
          rcases h with (⟨h, _⟩ | h) | h
          · exact Or.inl (by simpa [mayInt] using h)
          · exact Or.inl (by simpa using guardsInS_mayInt s h)
          · exact Or.inr (by simpa using guardsInL_int ss h)
        rcases this with (h | h) | (h | h) <;> simp [h]
      · simp
end

theorem guardsInL_anyIntL (b : List Sk) : guardsInL .loop b = true → anyIntL b = true := by
  intro h
  rw [anyIntL_eq]
  exact guardsInL_int b h

mutual
  theorem guardsInS_none (x : Sk) : guardsInS .none x = false := by
    cases x with
    | ite c t e => simp [guardsInS, guardsInL_none t, guardsInL_none e]
    | whl c b e | for_ c b e => simp [guardsInS, guardsInL_none e]
    | atom i | pass | brk | cont | ret v => rfl
  theorem guardsInL_none (b : List Sk) : guardsInL .none b = false := by
    cases b with
    | nil => rfl
    | cons s ss => simp [guardsInL, mayInt, guardsInS_none s, guardsInL_none ss]
end

theorem guardsInL_cons {fk : FlowKind} {x : Sk} {xs : List Sk} (hd : x.isDirect = false) (hmi : mayInt fk x = true)
    (hxs : xs.isEmpty = false) : guardsInL fk (x :: xs) = true := by
  simp [guardsInL, hd, hmi, hxs]

/-! ### the two kinds of loop

A `for` loop is a `while` loop with another head step: where `while` evaluates its condition,
`for` advances its iterator; where `while` tests its break flag, `for` has the iterator wrapper
test its `_break` attribute.  The loop lemmas are therefore stated once, for a loop of kind `w`
(`true`: while, as `LCtx.isWhile`); `Sk.loop` here (with `wf_loop`, `loopIds_loop` in `Inv`), and `head`, `enter`, `loopBody`, `loopIters`,
`loopComp`, `loopOpen`, `brkGuard`, `loopElse` in `Target`, say what the kind decides. -/

def Sk.loop : Bool → Nat → List Sk → List Sk → Sk
  | true, c, b, e => .whl c b e
  | false, c, b, e => .for_ c b e

theorem guardsInS_loop (fk w c b e) : guardsInS fk (Sk.loop w c b e) = guardsInL fk e := by cases w <;> rfl

/-! ### which signals an item can produce -/

/-- a signal is only produced where the analysis pass sees its syntactic cause -/
def Poss : Item → Sig → Prop
  | _, .normal => True
  | .stmt s, .brk => hasBC true s = true
  | .stmt s, .cont => hasBC false s = true
  | .stmt s, .ret _ => hasRet s = true
  | .block b, .brk => hasBCL true b = true
  | .block b, .cont => hasBCL false b = true
  | .block b, .ret _ => hasRetL b = true
  | .wloop _ b, .brk => hasBCL true b = true
  | .wloop _ _, .cont => False
  | .wloop _ b, .ret _ => hasRetL b = true
  | .floop _ b, .brk => hasBCL true b = true
  | .floop _ _, .cont => False
  | .floop _ b, .ret _ => hasRetL b = true

theorem direct_not_normal {σ} {W : World σ} {x : Sk} {s s' : σ} {sig : Sig}
    (h : Exec W (.stmt x) s s' sig) (hd : x.isDirect = true) : sig ≠ .normal := by
  cases h <;> simp_all [Sk.isDirect]

theorem normal_not_direct {σ} {W : World σ} {x : Sk} {s s' : σ} (h : Exec W (.stmt x) s s' .normal) :
    x.isDirect = false := by
  cases h <;> rfl

theorem exec_poss {σ} {W : World σ} {item : Item} {s s' : σ} {sig : Sig}
    (h : Exec W item s s' sig) : Poss item sig := by
  induction h with
  | atom | pass | whlBrk | forBrk | nil | wExit | fExit => trivial
  | brk | cont => simp [Poss, hasBC]
  | retNone | retSome => simp [Poss, hasRet]
  | iteTrue _ _ _ _ _ sig | iteFalse _ _ _ _ _ sig | whlDone _ _ _ _ _ _ sig | forDone _ _ _ _ _ _ sig =>
    cases sig <;> simp_all [Poss, hasBC, hasRet]
  | whlRet | forRet => simp_all [Poss, hasRet]
  | consNormal _ _ _ _ _ sig h1 =>
    have hd := normal_not_direct h1
    cases sig <;> simp_all [Poss, hasBCL, hasRetL]
  | consStop _ _ _ _ sig => cases sig <;> simp_all [Poss, hasBCL, hasRetL]
  | wNext | fNext | wBrk | fBrk | wRet | fRet => assumption

/-- the signal leaves the loop whose body produced it -/
def Sig.leaves : Sig → Bool
  | .brk | .ret _ => true
  | _ => false

/-- a body that can be left by break / return is one for which the break flag exists -/
theorem hasBreakL_of_poss {b : List Sk} {sig : Sig} (hs : sig.leaves = true) (h : Poss (.block b) sig) :
    hasBreakL b = true := by
  cases sig with
  | brk => exact hasBCL_hasBreakL b h
  | ret v => exact hasRetL_hasBreakL b h
  | normal | cont => cases hs

end OlVerif.Ctrl
