/-
  The simulation.  `Goal` says, for each kind of item, that a source execution is matched by an
  evaluation of the lowered code with the same effect on the user state, the flags ending as the
  exit condition of the signal says.  `lower_correct_item` proves it by induction on the source
  execution; each case is: induction hypotheses, inherited side conditions (`Inv`), an evaluation
  lemma (`Target`), composition of exit conditions (`Inv`).
-/
import OlVerif.Ctrl.Inv
import OlVerif.Ctrl.Target

namespace OlVerif.Ctrl

variable {σ : Type} {W : World σ} {w : Bool} {c : Nat} {b : List Sk}

/-- the iterations of loop `c` (of either kind), lowered under any context in which the loop's break flag is
    clear (if it exists); they are left by break / return only if that flag exists -/
def IterGoal (W : World σ) (w : Bool) (c : Nat) (b : List Sk) (s s' : σ) (sig : Sig) : Prop :=
  ∀ (cx : Cx) (fl : Flag → Bool) (rv : Option Nat), GoodB (cx.push (loopCtx w c b)) b → (hasBreakL b = true → fl (.brk c) = false) →
    ∃ fl' rv' n, Eval W (loopIters cx w c b) ⟨s, fl, rv⟩ ⟨s', fl', rv'⟩ n ∧
      PostLoop cx c sig fl rv fl' rv' ∧ (sig.leaves = true → hasBreakL b = true)

def Goal (W : World σ) : Item → σ → σ → Sig → Prop
  | .stmt x, s, s', sig => ∀ (cx : Cx) (fl : Flag → Bool) (rv : Option Nat), GoodS cx x → Inv cx fl →
      ∃ fl' rv', Eval W (.seq (lowerS cx x)) ⟨s, fl, rv⟩ ⟨s', fl', rv'⟩ true ∧ Post cx sig fl rv fl' rv'
  | .block b, s, s', sig => ∀ (cx : Cx) (fl : Flag → Bool) (rv : Option Nat), GoodB cx b → Inv cx fl →
      ∃ fl' rv', Eval W (.seq (lowerB cx b)) ⟨s, fl, rv⟩ ⟨s', fl', rv'⟩ true ∧ Post cx sig fl rv fl' rv'
  | .wloop c b, s, s', sig => IterGoal W true c b s s' sig
  | .floop c b, s, s', sig => IterGoal W false c b s s' sig

theorem eval_loopBody (cx : Cx) (w : Bool) (c : Nat) (b : List Sk) (s1 s2 : σ) (sig : Sig) (fl : Flag → Bool)
    (rv : Option Nat) (ih : Goal W (.block b) s1 s2 sig) (hg : GoodB (cx.push (loopCtx w c b)) b) :
    ∃ fl2 rv2 bw, Eval W (.expr (loopBody cx w c b)) ⟨s1, fl, rv⟩ ⟨s2, fl2, rv2⟩ bw ∧ PostLoop cx c sig fl rv fl2 rv2 := by
  obtain ⟨fl1, hr, hz, h01⟩ := eval_optReset (W := W) (guardsInL .loop b) (.intr c) ⟨s1, fl, rv⟩
  have hinv : Inv (cx.push (loopCtx w c b)) fl1 := by
    intro hu
    rw [push_ownerUsed] at hu
    rw [push_flowFlag]
    exact hz hu
  obtain ⟨fl2, rv2, he, hp⟩ := ih (cx.push (loopCtx w c b)) fl1 rv hg hinv
  have hb : Eval W (.seq ((if w then [] else [T.bindItem c]) ++ lowerB (cx.push (loopCtx w c b)) b))
      ⟨s1, fl1, rv⟩ ⟨s2, fl2, rv2⟩ true := by
    cases w
    · exact Eval.seqCons _ _ _ _ _ _ (Eval.bindItem c ⟨s1, fl1, rv⟩) he
    · exact he
  obtain ⟨bw, hbw⟩ := eval_wrap cx.wrap (eval_seq_append hr hb)
  exact ⟨fl2, rv2, bw, hbw, post_pop (l := loopCtx w c b) (push_fresh hg.2.2.2).2 h01 hp⟩

theorem case_exit (s : σ) (hc : (head W w c s).2 = false) : IterGoal W w c b s (head W w c s).1 .normal := by
  intro cx fl rv hg hopen
  exact ⟨fl, rv, false, iters_stop (t := ⟨s, fl, rv⟩) hopen hc, ⟨post_normal_refl _ _ _, rfl⟩, nofun⟩

theorem case_next (s s1 s2 : σ) (sig sig' : Sig) (hc : (head W w c s).2 = true) (hs : sig = .normal ∨ sig = .cont)
    (ih1 : Goal W (.block b) (head W w c s).1 s1 sig) (ih2 : IterGoal W w c b s1 s2 sig') :
    IterGoal W w c b s s2 sig' := by
  intro cx fl rv hg hopen
  obtain ⟨fl2, rv2, bw, hbody, hp⟩ := eval_loopBody cx w c b _ _ _ fl rv ih1 hg
  have hp : PostLoop cx c .normal fl rv fl2 rv2 := by rcases hs with rfl | rfl <;> exact hp
  obtain ⟨fl', rv', n, hrest, hpl, hb⟩ := ih2 cx fl2 rv2 hg (fun hb => hp.2.trans (hopen hb))
  exact ⟨fl', rv', true, iters_step (t := ⟨s, fl, rv⟩) hopen hc hbody hrest, hp.trans hpl, hb⟩

/-- the body is left by break / return: its exit condition says that the break flag is set, so
    the iterations end without another evaluation of the condition / advance of the iterator -/
theorem case_leave (s s1 : σ) (sig : Sig) (hc : (head W w c s).2 = true) (hs : sig.leaves = true)
    (hex : Exec W (.block b) (head W w c s).1 s1 sig) (ih : Goal W (.block b) (head W w c s).1 s1 sig) :
    IterGoal W w c b s s1 sig := by
  intro cx fl rv hg hopen
  obtain ⟨fl2, rv2, bw, hbody, hp⟩ := eval_loopBody cx w c b _ _ _ fl rv ih hg
  have hb := hasBreakL_of_poss hs (exec_poss hex)
  have hstop := iters_broken (W := W) (cx := cx) (w := w) (t := ⟨s1, fl2, rv2⟩) hb (hp.2.trans (by rw [hs]; rfl))
  exact ⟨fl2, rv2, true, iters_step (t := ⟨s, fl, rv⟩) hopen hc hbody hstop, hp, fun _ => hb⟩

theorem case_loop (w : Bool) (c : Nat) (b e : List Sk) (s s1 s2 : σ) (sigL sig : Sig)
    (ihL : IterGoal W w c b (enter W w c s) s1 sigL)
    (hrest : (sigL = .normal ∧ Goal W (.block e) s1 s2 sig) ∨ (sigL.leaves = true ∧ s1 = s2 ∧ sig = sigL.outer)) :
    Goal W (.stmt (Sk.loop w c b e)) s s2 sig := by
  intro cx fl rv hg hinv
  obtain ⟨hgl, hge⟩ := good_loop hg
  rw [lowerS_loop]
  obtain ⟨fl0, h0brk, h0other, hmk⟩ := eval_loop_enter (W := W) cx w c b s fl rv
  obtain ⟨fl1, rv1, n, hloop, ⟨hpl, hbk⟩, hleft⟩ := ihL cx fl0 rv hgl h0brk
  have hhead := hmk _ n hloop
  -- opening the loop touched only its break flag
  have hpl := post_trans_normal ⟨fun f hf => h0other f fun e => (push_fresh hgl.2.2.2).1 (e ▸ hf), rfl⟩ hpl
  rcases hrest with ⟨rfl, ihE⟩ | ⟨hs, rfl, rfl⟩
  · -- ran to exhaustion: the else clause runs
    obtain ⟨fl', rv', he, hp⟩ := ihE cx fl1 rv1 hge (inv_of_agree hpl.1 hinv)
    exact ⟨fl', rv', eval_seq_append hhead (eval_loop_else (t := ⟨s1, fl1, rv1⟩) (fun hb => hbk.trans (h0brk hb)) he),
      post_trans_normal hpl hp⟩
  · -- left by break / return: the else clause is skipped
    exact ⟨fl1, rv1, eval_seq_append hhead (eval_loop_else_skip (t := ⟨s1, fl1, rv1⟩) e (hleft hs)
      (hbk.trans (by rw [hs]; rfl))), hpl⟩

theorem lower_correct_item {item : Item} {s s' : σ} {sig : Sig} (h : Exec W item s s' sig) :
    Goal W item s s' sig := by
  induction h with
  | atom i s =>
    intro cx fl rv _ _
    exact ⟨fl, rv, by simpa [lowerS] using eval_seq_single (Eval.atom i ⟨s, fl, rv⟩), post_normal_refl _ _ _⟩
  | pass s =>
    intro cx fl rv _ _
    exact ⟨fl, rv, by simpa [lowerS] using eval_seq_single (Eval.ell (W := W) ⟨s, fl, rv⟩), post_normal_refl _ _ _⟩
  | brk s =>
    intro cx fl rv hg _
    obtain ⟨l, hl⟩ := exists_last (cx := cx) (by simpa [wf] using hg.1)
    obtain ⟨v, hb⟩ := eval_setsTrue (W := W) (brkSet_setsTrue l) ⟨s, fl, rv⟩
    obtain ⟨fl', he, h1, h2⟩ := eval_intrSet (W := W) l ⟨s, setF fl (.brk l.id) true, rv⟩
    refine ⟨fl', rv, ?_, l, hl, ?_, h1, fun f hf => ?_, rfl⟩
    · simp only [lowerS, hl]
      exact eval_seq_single (Eval.seqList _ _ _ (Eval.seqCons _ _ _ _ _ _ hb he))
    · rw [h2 _ (by simp)]
      exact setF_same _ _ _
    · obtain ⟨n1, n2⟩ := outer_ne_inner hg.2.2.2 hl hf
      rw [h2 f n2]
      exact setF_other _ _ _ _ n1
  | cont s =>
    intro cx fl rv hg _
    obtain ⟨l, hl⟩ := exists_last (cx := cx) (by simpa [wf] using hg.1)
    obtain ⟨fl', he, h1, h2⟩ := eval_intrSet (W := W) l ⟨s, fl, rv⟩
    refine ⟨fl', rv, ?_, l, hl, h2 _ (by simp), h1, fun f hf => h2 f (outer_ne_inner hg.2.2.2 hl hf).2, rfl⟩
    simp only [lowerS, hl]
    exact eval_seq_single (Eval.seqList _ _ _ he)
  | retNone s =>
    intro cx fl rv _ _
    obtain ⟨fl', he, h1, h2⟩ := eval_ret_sets (W := W) cx ⟨s, fl, rv⟩
    refine ⟨fl', rv, ?_, h1, h2, rfl⟩
    simp only [lowerS, List.nil_append, List.append_assoc]
    exact eval_seq_single (Eval.seqList _ _ _ he)
  | retSome i s =>
    intro cx fl rv _ _
    obtain ⟨fl', he, h1, h2⟩ := eval_ret_sets (W := W) cx ⟨(W.retv i s).1, fl, some (W.retv i s).2.1⟩
    refine ⟨fl', some (W.retv i s).2.1, ?_, h1, h2, rfl⟩
    simp only [lowerS, List.cons_append, List.nil_append, List.append_assoc]
    exact eval_seq_single (Eval.seqList _ _ _ (Eval.seqCons _ _ _ _ _ _ (Eval.setRetv i ⟨s, fl, rv⟩) he))
  | iteTrue c t e s s' sig hc _ ih =>
    intro cx fl rv hg hinv
    obtain ⟨fl', rv', he, hp⟩ := ih cx fl rv (good_ite hg).1 hinv
    exact ⟨fl', rv', eval_ite_true cx c t e ⟨s, fl, rv⟩ _ hc he, hp⟩
  | iteFalse c t e s s' sig hc _ ih =>
    intro cx fl rv hg hinv
    obtain ⟨fl', rv', he, hp⟩ := ih cx fl rv (good_ite hg).2 hinv
    exact ⟨fl', rv', eval_ite_false cx c t e ⟨s, fl, rv⟩ _ hc he, hp⟩
  | nil s =>
    intro cx fl rv _ _
    exact ⟨fl, rv, by simpa [lowerB] using Eval.seqNil (W := W) ⟨s, fl, rv⟩, post_normal_refl _ _ _⟩
  | consNormal x xs s s1 s2 sig h1 h2 ih1 ih2 =>
    intro cx fl rv hg hinv
    have hd := normal_not_direct h1
    obtain ⟨fl1, rv1, he1, hp1⟩ := ih1 cx fl rv (goodS_of_cons hg) hinv
    have hinv1 := inv_of_agree hp1.1 hinv
    obtain ⟨fl', rv', he2, hp2⟩ := ih2 cx fl1 rv1 (goodB_of_cons hg hd) hinv1
    exact ⟨fl', rv', eval_cons_run hd (fun hmi hxs => hinv1 (hg.2.2.1 (guardsInL_cons hd hmi hxs))) he1 he2,
      post_trans_normal hp1 hp2⟩
  | consStop x xs s s1 sig h1 hne ih =>
    intro cx fl rv hg hinv
    obtain ⟨fl', rv', he, hp⟩ := ih cx fl rv (goodS_of_cons hg) hinv
    have hmi := stop_mayInt h1 hne (goodS_of_cons hg) hp
    exact ⟨fl', rv', eval_cons_skip hmi
      (fun hd hxs => post_flow_true hne hp (hg.2.2.1 (guardsInL_cons hd hmi hxs))) he, hp⟩
  | whlDone c b e s s1 s2 sig _ _ ih1 ih2 | forDone c b e s s1 s2 sig _ _ ih1 ih2 =>
    exact case_loop _ c b e s s1 s2 .normal sig ih1 (Or.inl ⟨rfl, ih2⟩)
  | whlBrk c b e s s1 _ ih | forBrk c b e s s1 _ ih =>
    exact case_loop _ c b e s s1 s1 .brk .normal ih (Or.inr ⟨rfl, rfl, rfl⟩)
  | whlRet c b e s s1 v _ ih | forRet c b e s s1 v _ ih =>
    exact case_loop _ c b e s s1 s1 (.ret v) (.ret v) ih (Or.inr ⟨rfl, rfl, rfl⟩)
  | wExit c b s hc | fExit c b s hc => exact case_exit s hc
  | wNext c b s s1 s2 sig sig' hc _ hs _ ih1 ih2 | fNext c b s s1 s2 sig sig' hc _ hs _ ih1 ih2 =>
    exact case_next s s1 s2 sig sig' hc hs ih1 ih2
  | wBrk c b s s1 hc hex ih | fBrk c b s s1 hc hex ih => exact case_leave s s1 .brk hc rfl hex ih
  | wRet c b s s1 v hc hex ih | fRet c b s s1 v hc hex ih => exact case_leave s s1 (.ret v) hc rfl hex ih

end OlVerif.Ctrl
