/-
  The two placements in which the converter lowers a block at top level - a module or class body,
  a function body - as instances of `lower_correct_item`.
-/
import OlVerif.Ctrl.Simulation

namespace OlVerif.Ctrl

variable {σ : Type} {W : World σ}

/-- **Module / class-body placement.**  Every terminating execution of the source block is
    matched by an evaluation of the lowered code that ends in the same user state - for every
    world (every interpretation of the atoms, conditions, iterables), both wrappers, both
    if-styles, and whatever the flags and the return cell held before. -/
theorem lower_correct_module (style : IfStyle) (wrap : Wrapper) (p : List Sk) (hwf : WfModule p)
    {s s' : σ} {sig : Sig} (h : Exec W (.block p) s s' sig) (fl : Flag → Bool) (rv : Option Nat) :
    sig = .normal ∧ ∃ fl' rv', Eval W (.seq (lowerModule style wrap p)) ⟨s, fl, rv⟩ ⟨s', fl', rv'⟩ true := by
  have hinv : Inv ({ style := style, wrap := wrap } : Cx) fl := by
    intro hu; simp [ownerUsed] at hu
  obtain ⟨fl', rv', he, hp⟩ := lower_correct_item h _ fl rv (good_module style wrap p hwf) hinv
  refine ⟨?_, fl', rv', he⟩
  rcases post_top rfl hp with rfl | ⟨v, rfl⟩
  · rfl
  · have : hasRetL p = true := exec_poss h
    rw [wfL_noFn_noRet false p hwf] at this
    cases this

/-- **Function placement.**  The lowered body (with the reset of the return flag when it is
    used) evaluates to the same user state, and the return cell ends holding the value of the
    `return` that was taken (the initial `None` when none was). -/
theorem lower_correct_function (style : IfStyle) (wrap : Wrapper) (p : List Sk) (hwf : WfFunction p)
    {s s' : σ} {sig : Sig} (h : Exec W (.block p) s s' sig) (fl : Flag → Bool) :
    ∃ fl' rv', Eval W (.seq (lowerFn style wrap p)) ⟨s, fl, none⟩ ⟨s', fl', rv'⟩ true ∧
      rv' = (match sig with | .ret (some v) => some v | _ => none) ∧ (sig = .normal ∨ ∃ v, sig = .ret v) := by
  unfold lowerFn
  obtain ⟨fl0, hpre, h0, _⟩ := eval_optReset (W := W) (guardsInL .function p) .ret ⟨s, fl, none⟩
  have hinv : Inv ({ style := style, wrap := wrap, loops := [], inFn := true, fnUsed := guardsInL .function p } : Cx) fl0 := by
    intro hu
    simp only [ownerUsed, List.getLast?_nil] at hu
    simpa [Cx.flowFlag] using h0 hu
  obtain ⟨fl', rv', he, hp⟩ := lower_correct_item h _ fl0 none (good_function style wrap p hwf) hinv
  refine ⟨fl', rv', eval_seq_append hpre he, ?_, post_top rfl hp⟩
  rcases post_top rfl hp with rfl | ⟨v, rfl⟩
  · exact hp.2
  · cases v <;> exact hp.2.2

end OlVerif.Ctrl
