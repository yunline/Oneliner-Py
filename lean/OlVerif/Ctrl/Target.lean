/-
  How the emitted code evaluates, without the invariant: the shapes `lowerS` / `lowerB` produce
  and the `Eval` derivations they have.  Sequences and wrappers; the lists that set or clear
  flags; `if` in both styles; the rest of a block behind its guard; the loop of kind `w`.
-/
import OlVerif.Ctrl.Lemmas

namespace OlVerif.Ctrl

variable {σ : Type} {W : World σ}

/-! ### sequences -/

theorem setF_same (fl : Flag → Bool) (f : Flag) (v : Bool) : setF fl f v f = v := by simp [setF]
theorem setF_other (fl : Flag → Bool) (f g : Flag) (v : Bool) (h : g ≠ f) : setF fl f v g = fl g := by
  simp [setF, h]

theorem eval_seq_append {a b : List T} {s s1 s2 : TS σ}
    (h1 : Eval W (.seq a) s s1 true) (h2 : Eval W (.seq b) s1 s2 true) : Eval W (.seq (a ++ b)) s s2 true := by
  induction a generalizing s with
  | nil => cases h1; simpa using h2
  | cons t ts ih =>
    cases h1 with
    | seqCons _ _ _ s' _ bb ht hts => exact Eval.seqCons _ _ _ _ _ _ ht (ih hts)

theorem eval_seq_single {t : T} {s s1 : TS σ} {b : Bool} (h : Eval W (.expr t) s s1 b) :
    Eval W (.seq [t]) s s1 true :=
  Eval.seqCons _ _ _ _ _ _ h (Eval.seqNil _)

theorem eval_readNot_of {f : Flag} {t : TS σ} {v : Bool} (h : t.fl f = v) : Eval W (.expr (.readNot f)) t t (!v) :=
  h ▸ Eval.readNot f t

theorem eval_cond_of {c : Nat} {t : TS σ} {v : Bool} (h : (W.cond c t.st).2 = v) :
    Eval W (.expr (.cond c)) t { t with st := (W.cond c t.st).1 } v :=
  h ▸ Eval.cond c t

theorem eval_wrap (w : Wrapper) {ts : List T} {s s' : TS σ} (h : Eval W (.seq ts) s s' true) :
    ∃ b, Eval W (.expr (wrapT w ts)) s s' b := by
  match ts, h with
  | [], h => cases h; exact ⟨true, Eval.ell _⟩
  | [t], h =>
    cases h with
    | seqCons _ _ _ s1 _ b ht hts => cases hts; exact ⟨b, ht⟩
  | t :: t' :: rest, h =>
    cases w with
    | list => exact ⟨_, Eval.seqList _ _ _ h⟩
    | chainCall => exact ⟨_, Eval.seqChain _ _ _ h⟩

/-! ### lists that set or clear flags -/

/-- `t` sets flag `f` to true and does nothing else -/
inductive SetsTrue : T → Flag → Prop
  | flag (f : Flag) : SetsTrue (.setFlag f true) f
  | attr (c : Nat) : SetsTrue (.setBreakAttr c) (.brk c)

theorem eval_setsTrue {t : T} {f : Flag} (h : SetsTrue t f) (s : TS σ) :
    ∃ b, Eval W (.expr t) s { s with fl := setF s.fl f true } b := by
  cases h with
  | flag f => exact ⟨_, Eval.setFlag f true s⟩
  | attr c => exact ⟨_, Eval.setBreakAttr c s⟩

inductive AllSets : List T → List Flag → Prop
  | nil : AllSets [] []
  | cons {t f ts fs} : SetsTrue t f → AllSets ts fs → AllSets (t :: ts) (f :: fs)

theorem eval_setsTrue_list {ts : List T} {fs : List Flag} (h : AllSets ts fs) (s : TS σ) :
    ∃ fl', Eval W (.seq ts) s { s with fl := fl' } true ∧ (∀ f ∈ fs, fl' f = true) ∧
      (∀ g, g ∉ fs → fl' g = s.fl g) := by
  induction h generalizing s with
  | nil => exact ⟨s.fl, Eval.seqNil _, by simp, by simp⟩
  | @cons t f ts' fs' hd _ ih =>
    obtain ⟨b, hb⟩ := eval_setsTrue (W := W) hd s
    obtain ⟨fl', he, h1, h2⟩ := ih { s with fl := setF s.fl f true }
    refine ⟨fl', Eval.seqCons _ _ _ _ _ _ hb he, ?_, ?_⟩
    · intro g hg
      simp only [List.mem_cons] at hg
      by_cases hgf : g ∈ fs'
      · exact h1 g hgf
      · rcases hg with rfl | hg
        · rw [h2 g hgf]; simp [setF]
        · exact absurd hg hgf
    · intro g hg
      simp only [List.mem_cons, not_or] at hg
      rw [h2 g hg.2]
      simp [setF, hg.1]

theorem brkSet_setsTrue (l : LCtx) : SetsTrue l.brkSet (.brk l.id) := by
  unfold LCtx.brkSet
  split
  · exact SetsTrue.flag _
  · exact SetsTrue.attr _

theorem brkSets_forall (ls : List LCtx) :
    AllSets (ls.map LCtx.brkSet) (ls.map fun l => Flag.brk l.id) := by
  induction ls with
  | nil => exact AllSets.nil
  | cons l ls ih => exact AllSets.cons (brkSet_setsTrue l) ih

theorem intrSets_forall (ls : List LCtx) :
    AllSets (intrSets ls) ((ls.filter (·.used)).map fun l => Flag.intr l.id) := by
  unfold intrSets
  induction (ls.filter (·.used)) with
  | nil => exact AllSets.nil
  | cons l ls ih => exact AllSets.cons (SetsTrue.flag _) ih

theorem allSets_append {a1 a2 : List T} {b1 b2 : List Flag}
    (h1 : AllSets a1 b1) (h2 : AllSets a2 b2) : AllSets (a1 ++ a2) (b1 ++ b2) := by
  induction h1 with
  | nil => simpa using h2
  | cons h _ ih => exact AllSets.cons h ih

/-- a flag is cleared before the code that may raise it, when something reads it (`u`) -/
theorem eval_optReset (u : Bool) (f : Flag) (t : TS σ) :
    ∃ fl1, Eval W (.seq (if u then [T.setFlag f false] else [])) t { t with fl := fl1 } true ∧
      (u = true → fl1 f = false) ∧ ∀ g, g ≠ f → fl1 g = t.fl g := by
  cases u
  · exact ⟨t.fl, Eval.seqNil _, (nomatch ·), fun _ _ => rfl⟩
  · exact ⟨setF t.fl f false, Eval.seqCons _ _ _ _ _ _ (Eval.setFlag _ _ _) (Eval.seqNil _), fun _ => setF_same _ _ _,
      fun g hg => setF_other _ _ _ _ hg⟩

/-- the list emitted to raise the interrupt flag of loop `l` (empty when the flag is never read) -/
theorem eval_intrSet (l : LCtx) (t : TS σ) :
    ∃ fl', Eval W (.seq (intrSets [l])) t { t with fl := fl' } true ∧
      (l.used = true → fl' (.intr l.id) = true) ∧ ∀ g, g ≠ .intr l.id → fl' g = t.fl g := by
  obtain ⟨fl', he, h1, h2⟩ := eval_setsTrue_list (W := W) (intrSets_forall [l]) t
  refine ⟨fl', he, fun hu => h1 _ (by simp [hu]), fun g hg => h2 g ?_⟩
  simp only [List.mem_map, List.mem_filter, List.mem_singleton, not_exists, not_and]
  rintro l' ⟨rfl, _⟩ e
  exact hg e.symm

/-- evaluation of the list emitted for `return` (after the optional return-value store) -/
theorem eval_ret_sets (cx : Cx) (s : TS σ) :
    ∃ fl', Eval W (.seq (cx.loops.map LCtx.brkSet ++ (intrSets cx.loops.reverse ++
        (if cx.fnUsed then [T.setFlag .ret true] else [])))) s { s with fl := fl' } true ∧
      (∀ l ∈ cx.loops, fl' (.brk l.id) = true ∧ (l.used = true → fl' (.intr l.id) = true)) ∧
      (cx.fnUsed = true → fl' .ret = true) := by
  have hret : AllSets (if cx.fnUsed then [T.setFlag .ret true] else []) (if cx.fnUsed then [Flag.ret] else []) := by
    split
    · exact AllSets.cons (SetsTrue.flag _) AllSets.nil
    · exact AllSets.nil
  obtain ⟨fl', he, h1, _⟩ := eval_setsTrue_list (W := W)
    (allSets_append (brkSets_forall cx.loops) (allSets_append (intrSets_forall cx.loops.reverse) hret)) s
  refine ⟨fl', he, ?_, ?_⟩
  · intro l hl
    constructor
    · apply h1
      simp only [List.mem_append, List.mem_map]
      exact Or.inl ⟨l, hl, rfl⟩
    · intro hu
      apply h1
      simp only [List.mem_append, List.mem_map, List.mem_filter, List.mem_reverse]
      exact Or.inr (Or.inl ⟨l, ⟨hl, by simpa using hu⟩, rfl⟩)
  · intro hf
    apply h1
    simp [hf]

/-! ### the lowered `if` -/

theorem eval_ite_true (cx : Cx) (c : Nat) (t e : List Sk) (s0 s2 : TS σ)
    (hc : (W.cond c s0.st).2 = true)
    (hb : Eval W (.seq (lowerB cx t)) { s0 with st := (W.cond c s0.st).1 } s2 true) :
    Eval W (.seq (lowerS cx (.ite c t e))) s0 s2 true := by
  obtain ⟨bt, hbt⟩ := eval_wrap cx.wrap hb
  have hcond := eval_cond_of (W := W) hc
  simp only [lowerS]
  cases cx.style with
  | ifExpr => exact eval_seq_single (Eval.ifTrue _ _ _ _ _ _ _ hcond hbt)
  | shortCircuit =>
    simp only
    split
    · exact eval_seq_single (Eval.andTrue _ _ _ _ _ _ hcond hbt)
    · -- `c and [body] or else`: the one-element list is true whatever the body's value is
      have hor : Eval W (.expr (.seqList [wrapT cx.wrap (lowerB cx t)])) { s0 with st := (W.cond c s0.st).1 } s2 true :=
        Eval.seqList _ _ _ (eval_seq_single hbt)
      exact eval_seq_single (Eval.orTrue _ _ _ _ (Eval.andTrue _ _ _ _ _ _ hcond hor))

theorem eval_ite_false (cx : Cx) (c : Nat) (t e : List Sk) (s0 s2 : TS σ)
    (hc : (W.cond c s0.st).2 = false)
    (hb : Eval W (.seq (lowerB cx e)) { s0 with st := (W.cond c s0.st).1 } s2 true) :
    Eval W (.seq (lowerS cx (.ite c t e))) s0 s2 true := by
  obtain ⟨be, hbe⟩ := eval_wrap cx.wrap hb
  have hcond := eval_cond_of (W := W) hc
  simp only [lowerS]
  cases cx.style with
  | ifExpr => exact eval_seq_single (Eval.ifFalse _ _ _ _ _ _ _ hcond hbe)
  | shortCircuit =>
    simp only
    split
    · rename_i he
      have : e = [] := by simpa using he
      subst this
      simp only [lowerB] at hb
      cases hb
      exact eval_seq_single (Eval.andFalse _ _ _ _ hcond)
    · exact eval_seq_single (Eval.orFalse _ _ _ _ _ _ (Eval.andFalse _ _ _ _ hcond) hbe)

/-! ### the rest of a block -/

theorem eval_cons_run {cx : Cx} {x : Sk} {xs : List Sk} {t t1 t2 : TS σ} (hd : x.isDirect = false)
    (hflag : mayInt cx.fk x = true → xs.isEmpty = false → t1.fl cx.flowFlag = false)
    (h1 : Eval W (.seq (lowerS cx x)) t t1 true) (h2 : Eval W (.seq (lowerB cx xs)) t1 t2 true) :
    Eval W (.seq (lowerB cx (x :: xs))) t t2 true := by
  simp only [lowerB, hd, Bool.false_or]
  cases hxs : xs.isEmpty
  · simp only [Bool.false_eq_true, ↓reduceIte]
    split
    · rename_i hmi
      obtain ⟨bw, hbw⟩ := eval_wrap cx.wrap h2
      exact eval_seq_append h1 (eval_seq_single (Eval.ifTrue _ _ _ _ _ _ _ (eval_readNot_of (hflag hmi hxs)) hbw))
    · exact eval_seq_append h1 h2
  · have : xs = [] := by simpa using hxs
    subst this
    simp only [lowerB] at h2
    cases h2
    simpa using h1

theorem eval_cons_skip {cx : Cx} {x : Sk} {xs : List Sk} {t t1 : TS σ} (hmi : mayInt cx.fk x = true)
    (hflag : x.isDirect = false → xs.isEmpty = false → t1.fl cx.flowFlag = true)
    (h1 : Eval W (.seq (lowerS cx x)) t t1 true) : Eval W (.seq (lowerB cx (x :: xs))) t t1 true := by
  simp only [lowerB]
  split
  · exact h1
  · rename_i hcond
    simp only [Bool.or_eq_true, not_or, Bool.not_eq_true] at hcond
    exact eval_seq_append h1 (eval_seq_single
      (Eval.ifFalse _ _ _ _ _ _ _ (eval_readNot_of (hflag hcond.1 hcond.2)) (Eval.ell _)))

/-! ### the lowered loop of kind `w` -/

def loopCtx (w : Bool) (c : Nat) (b : List Sk) : LCtx := ⟨c, w, guardsInL .loop b⟩

/-- the source step that decides on another iteration -/
def head (W : World σ) : Bool → Nat → σ → σ × Bool
  | true, c => W.cond c
  | false, c => W.iterNext c

/-- the state in which the iterations start -/
def enter (W : World σ) : Bool → Nat → σ → σ
  | true, _, s => s
  | false, c, s => W.iterOpen c s

def whileTest (c : Nat) (b : List Sk) : T :=
  if hasBreakL b then .and_ (.readNot (.brk c)) (.cond c) else .cond c

def resetIntr (c : Nat) (b : List Sk) : List T :=
  if guardsInL .loop b then [T.setFlag (.intr c) false] else []

def loopBody (cx : Cx) (w : Bool) (c : Nat) (b : List Sk) : T :=
  wrapT cx.wrap (resetIntr c b ++ ((if w then [] else [T.bindItem c]) ++ lowerB (cx.push (loopCtx w c b)) b))

def loopIters (cx : Cx) (w : Bool) (c : Nat) (b : List Sk) : TItem :=
  match w with
  | true => .wloop (whileTest c b) (loopBody cx true c b)
  | false => .floop c (hasBreakL b) (loopBody cx false c b)

def loopComp (cx : Cx) (w : Bool) (c : Nat) (b : List Sk) : T :=
  match w with
  | true => .whileComp (whileTest c b) (loopBody cx true c b)
  | false => .forComp c (hasBreakL b) (loopBody cx false c b)

/-- what precedes the comprehension when the body can leave the loop -/
def loopOpen : Bool → Nat → T
  | true, c => .setFlag (.brk c) false
  | false, c => .openWrapped c

/-- "the loop was not left by break / return" -/
def brkGuard : Bool → Nat → T
  | true, c => .readNot (.brk c)
  | false, c => .readNotBreakAttr c

def loopElse (cx : Cx) (w : Bool) (c : Nat) (b e : List Sk) : List T :=
  if e.isEmpty then [] else
    [if hasBreakL b then T.ifExp (brkGuard w c) (wrapT cx.wrap (lowerB cx e)) .ell else wrapT cx.wrap (lowerB cx e)]

theorem lowerS_loop (cx : Cx) (w : Bool) (c : Nat) (b e : List Sk) :
    lowerS cx (Sk.loop w c b e) =
      (if hasBreakL b then [loopOpen w c] else []) ++ [loopComp cx w c b] ++ loopElse cx w c b e := by
  -- here and below `cases w` gives `for` (`w = false`) first, then `while`
  cases w
  · simp only [Sk.loop, lowerS, loopComp, loopBody, loopCtx, loopOpen, loopElse, brkGuard, resetIntr]
    split
    · rename_i h
      simp only [Bool.and_eq_true, Bool.not_eq_true'] at h
      have hb : hasBreakL b = false :=
        Bool.eq_false_iff.mpr fun hh => Bool.false_ne_true (h.1.symm.trans (hasBreakL_anyIntL b hh))
      have hg : guardsInL .loop b = false :=
        Bool.eq_false_iff.mpr fun hh => Bool.false_ne_true (h.1.symm.trans (guardsInL_anyIntL b hh))
      simp [hb, hg, h.2]
    · rfl
  · simp only [Sk.loop, lowerS, loopComp, loopBody, loopCtx, loopOpen, loopElse, brkGuard, resetIntr, whileTest,
      ↓reduceIte, List.nil_append]

theorem eval_whileTest_open (c : Nat) (b : List Sk) (s0 : TS σ) {v : Bool}
    (hbrk : hasBreakL b = true → s0.fl (.brk c) = false) (hc : (W.cond c s0.st).2 = v) :
    Eval W (.expr (whileTest c b)) s0 { s0 with st := (W.cond c s0.st).1 } v := by
  unfold whileTest
  split
  · rename_i hb
    exact Eval.andTrue _ _ _ _ _ _ (eval_readNot_of (hbrk hb)) (eval_cond_of hc)
  · exact eval_cond_of hc

/-- the while test after break / return: false, and the user condition is *not* evaluated -/
theorem eval_whileTest_closed (c : Nat) (b : List Sk) (s0 : TS σ)
    (hb : hasBreakL b = true) (hbrk : s0.fl (.brk c) = true) :
    Eval W (.expr (whileTest c b)) s0 s0 false := by
  simp only [whileTest, hb, ↓reduceIte]
  exact Eval.andFalse _ _ _ _ (eval_readNot_of hbrk)

variable {cx : Cx} {w : Bool} {c : Nat} {b : List Sk}

theorem iters_stop {t : TS σ} (hopen : hasBreakL b = true → t.fl (.brk c) = false) (hc : (head W w c t.st).2 = false) :
    Eval W (loopIters cx w c b) t { t with st := (head W w c t.st).1 } false := by
  cases w
  · exact Eval.fStop c _ _ t hopen hc
  · exact Eval.wStop _ _ _ _ (eval_whileTest_open c b t hopen hc)

theorem iters_step {t t2 t3 : TS σ} {bw n : Bool} (hopen : hasBreakL b = true → t.fl (.brk c) = false)
    (hc : (head W w c t.st).2 = true) (hb : Eval W (.expr (loopBody cx w c b)) { t with st := (head W w c t.st).1 } t2 bw)
    (hr : Eval W (loopIters cx w c b) t2 t3 n) : Eval W (loopIters cx w c b) t t3 true := by
  cases w
  · exact Eval.fStep c _ _ t _ _ _ _ hopen hc hb hr
  · exact Eval.wStep _ _ _ _ _ _ _ _ (eval_whileTest_open c b t hopen hc) hb hr

/-- once the break flag is set there is no further iteration, and no further evaluation of the
    condition / advance of the iterator -/
theorem iters_broken {t : TS σ} (hb : hasBreakL b = true) (hf : t.fl (.brk c) = true) :
    Eval W (loopIters cx w c b) t t false := by
  cases w
  · simp only [loopIters, hb]
    exact Eval.fBroken c _ t hf
  · exact Eval.wStop _ _ _ _ (eval_whileTest_closed c b t hb hf)

theorem eval_brkGuard {t : TS σ} {v : Bool} (h : t.fl (.brk c) = v) : Eval W (.expr (brkGuard w c)) t t (!v) := by
  cases w
  · exact h ▸ Eval.readNotBreakAttr c t
  · exact h ▸ Eval.readNot (.brk c) t

theorem eval_loop_else {e : List Sk} {t t2 : TS σ} (hopen : hasBreakL b = true → t.fl (.brk c) = false)
    (he : Eval W (.seq (lowerB cx e)) t t2 true) : Eval W (.seq (loopElse cx w c b e)) t t2 true := by
  unfold loopElse
  split
  · rename_i hem
    have : e = [] := by simpa using hem
    subst this
    simp only [lowerB] at he
    cases he
    exact Eval.seqNil _
  · obtain ⟨bw, hbw⟩ := eval_wrap cx.wrap he
    split
    · rename_i hb
      exact eval_seq_single (Eval.ifTrue _ _ _ _ _ _ _ (eval_brkGuard (hopen hb)) hbw)
    · exact eval_seq_single hbw

theorem eval_loop_else_skip (e : List Sk) {t : TS σ} (hb : hasBreakL b = true) (hf : t.fl (.brk c) = true) :
    Eval W (.seq (loopElse cx w c b e)) t t true := by
  simp only [loopElse, hb, ↓reduceIte]
  split
  · exact Eval.seqNil _
  · exact eval_seq_single (Eval.ifFalse _ _ _ _ _ _ _ (eval_brkGuard hf) (Eval.ell _))

/-- the evaluation of the iterations is a premise, not a conclusion: without a break flag the
    iterable is opened inside the rule of the comprehension (`Eval.forPlain`) -/
theorem eval_loop_enter (cx : Cx) (w : Bool) (c : Nat) (b : List Sk) (s : σ) (fl : Flag → Bool) (rv : Option Nat) :
    ∃ fl0, (hasBreakL b = true → fl0 (.brk c) = false) ∧ (∀ f, f ≠ .brk c → fl0 f = fl f) ∧
      ∀ t1 n, Eval W (loopIters cx w c b) ⟨enter W w c s, fl0, rv⟩ t1 n →
        Eval W (.seq ((if hasBreakL b then [loopOpen w c] else []) ++ [loopComp cx w c b])) ⟨s, fl, rv⟩ t1 true := by
  cases w
  · cases hb : hasBreakL b <;> simp only [loopIters, loopComp, hb]
    · exact ⟨fl, (nomatch ·), fun _ _ => rfl, fun t1 n hloop => eval_seq_single (Eval.forPlain c _ ⟨s, fl, rv⟩ _ _ hloop)⟩
    · exact ⟨setF fl (.brk c) false, fun _ => setF_same _ _ _, fun f hf => setF_other _ _ _ _ hf, fun t1 n hloop =>
        Eval.seqCons _ _ _ _ _ _ (Eval.openWrapped c ⟨s, fl, rv⟩) (eval_seq_single (Eval.forWrapped c _ _ _ _ hloop))⟩
  · obtain ⟨fl0, he, h1, h2⟩ := eval_optReset (W := W) (hasBreakL b) (.brk c) ⟨s, fl, rv⟩
    exact ⟨fl0, h1, h2, fun t1 n hloop => eval_seq_append he (eval_seq_single (Eval.whileComp _ _ _ _ _ hloop))⟩

end OlVerif.Ctrl
