/-
  The invariant of the lowering, without the target semantics.  Which skeletons are well-formed
  (`wf`: it rules out `return` outside a function); the flags that belong to a context
  (`ctxFlags`); the entry invariant `Inv` and the exit condition `Post` of a block, `PostLoop` of
  the iterations of a loop, and how exit conditions compose and move between a loop body and the
  loop; the side conditions `GoodS` / `GoodB` under which the simulation holds, and
  that sub-items inherit them.
-/
import OlVerif.Ctrl.Lemmas

namespace OlVerif.Ctrl

/-! ### well-formedness of skeletons -/

mutual
  def loopIds : Sk → List Nat
    | .ite _ t e => loopIdsL t ++ loopIdsL e
    | .whl c b e => c :: (loopIdsL b ++ loopIdsL e)
    | .for_ c b e => c :: (loopIdsL b ++ loopIdsL e)
    | _ => []
  def loopIdsL : List Sk → List Nat
    | [] => []
    | s :: ss => loopIds s ++ loopIdsL ss
end

mutual
  /-- a loop's id differs from the ids of the loops nested in its body; `break` / `continue`
      occur only inside loops (`inLoop`), `return` only inside a function (`inFn`) -/
  def wf (inLoop inFn : Bool) : Sk → Bool
    | .brk | .cont => inLoop
    | .ret _ => inFn
    | .ite _ t e => wfL inLoop inFn t && wfL inLoop inFn e
    | .whl c b e => !(loopIdsL b).contains c && wfL true inFn b && wfL inLoop inFn e
    | .for_ c b e => !(loopIdsL b).contains c && wfL true inFn b && wfL inLoop inFn e
    | _ => true
  def wfL (inLoop inFn : Bool) : List Sk → Bool
    | [] => true
    | s :: ss => wf inLoop inFn s && wfL inLoop inFn ss
end

/-- a module-level (or class-body) skeleton: `break` / `continue` only inside loops, no `return`,
    every loop's id different from the ids of the loops nested in it -/
def WfModule (p : List Sk) : Prop := wfL false false p = true

/-- a function body: the same, `return` allowed -/
def WfFunction (p : List Sk) : Prop := wfL false true p = true

mutual
  theorem wf_noFn_noRet (il : Bool) (x : Sk) : wf il false x = true → hasRet x = false := by
    cases x with
    | ret v => simp [wf]
    | ite c t e =>
      simp only [wf, hasRet, Bool.and_eq_true, Bool.or_eq_false_iff]
      intro ⟨h1, h2⟩
      exact ⟨wfL_noFn_noRet il t h1, wfL_noFn_noRet il e h2⟩
    | whl c b e | for_ c b e =>
      simp only [wf, hasRet, Bool.and_eq_true, Bool.or_eq_false_iff]
      intro ⟨⟨_, h1⟩, h2⟩
      exact ⟨wfL_noFn_noRet true b h1, wfL_noFn_noRet il e h2⟩
    | atom i | pass | brk | cont => simp [hasRet]
  theorem wfL_noFn_noRet (il : Bool) (b : List Sk) : wfL il false b = true → hasRetL b = false := by
    cases b with
    | nil => simp [hasRetL]
    | cons s ss =>
      simp only [wfL, hasRetL, Bool.and_eq_true, Bool.or_eq_false_iff, Bool.and_eq_false_iff]
      intro ⟨h1, h2⟩
      exact ⟨wf_noFn_noRet il s h1, Or.inr (wfL_noFn_noRet il ss h2)⟩
end

theorem wf_loop (il fn w c b e) :
    wf il fn (Sk.loop w c b e) = (!(loopIdsL b).contains c && wfL true fn b && wfL il fn e) := by cases w <;> rfl
theorem loopIds_loop (w c b e) : loopIds (Sk.loop w c b e) = c :: (loopIdsL b ++ loopIdsL e) := by cases w <;> rfl

/-! ### flags of a context -/

def loopFlags (ls : List LCtx) : List Flag := ls.flatMap fun l => [Flag.brk l.id, Flag.intr l.id]

def ctxFlags (cx : Cx) : List Flag := loopFlags cx.loops ++ [Flag.ret]

def outerFlags (cx : Cx) : List Flag := loopFlags cx.loops.dropLast ++ [Flag.ret]

/-- the `used` flag of the owner of this block's flow-control flag -/
def ownerUsed (cx : Cx) : Bool :=
  match cx.loops.getLast? with
  | some l => l.used
  | none => cx.fnUsed

/-- no loop inside the item reuses the id of an enclosing loop -/
def Fresh (cx : Cx) (ids : List Nat) : Prop := ∀ c ∈ ids, ∀ l ∈ cx.loops, l.id ≠ c

/-- **Entry invariant** of a block: if its flow-control flag is ever read, it is currently false -/
def Inv (cx : Cx) (fl : Flag → Bool) : Prop := ownerUsed cx = true → fl cx.flowFlag = false

/-- **Exit condition** of a statement / block, by signal -/
def Post (cx : Cx) (sig : Sig) (fl : Flag → Bool) (rv : Option Nat) (fl' : Flag → Bool) (rv' : Option Nat) : Prop :=
  match sig with
  | .normal => (∀ f ∈ ctxFlags cx, fl' f = fl f) ∧ rv' = rv
  | .brk => ∃ l, cx.loops.getLast? = some l ∧ fl' (.brk l.id) = true ∧ (l.used = true → fl' (.intr l.id) = true) ∧
      (∀ f ∈ outerFlags cx, fl' f = fl f) ∧ rv' = rv
  | .cont => ∃ l, cx.loops.getLast? = some l ∧ fl' (.brk l.id) = fl (.brk l.id) ∧
      (l.used = true → fl' (.intr l.id) = true) ∧ (∀ f ∈ outerFlags cx, fl' f = fl f) ∧ rv' = rv
  | .ret v => (∀ l ∈ cx.loops, fl' (.brk l.id) = true ∧ (l.used = true → fl' (.intr l.id) = true)) ∧
      (cx.fnUsed = true → fl' .ret = true) ∧ rv' = (match v with | some x => some x | none => rv)

/-- what a loop statement signals when its iterations end with `sig` and the else clause does not run -/
def Sig.outer : Sig → Sig
  | .ret v => .ret v
  | _ => .normal

/-- exit condition of the body / the iterations of loop `c` seen from the context outside the loop: the statement's,
    and the break flag is raised iff the loop is left -/
def PostLoop (cx : Cx) (c : Nat) (sig : Sig) (fl : Flag → Bool) (rv : Option Nat) (fl' : Flag → Bool)
    (rv' : Option Nat) : Prop :=
  Post cx sig.outer fl rv fl' rv' ∧ fl' (.brk c) = (sig.leaves || fl (.brk c))

@[simp] theorem push_loops (cx : Cx) (l : LCtx) : (cx.push l).loops = cx.loops ++ [l] := rfl
@[simp] theorem push_wrap (cx : Cx) (l : LCtx) : (cx.push l).wrap = cx.wrap := rfl
@[simp] theorem push_style (cx : Cx) (l : LCtx) : (cx.push l).style = cx.style := rfl
@[simp] theorem push_fnUsed (cx : Cx) (l : LCtx) : (cx.push l).fnUsed = cx.fnUsed := rfl

theorem push_getLast (cx : Cx) (l : LCtx) : (cx.push l).loops.getLast? = some l := by simp

theorem push_fk (cx : Cx) (l : LCtx) : (cx.push l).fk = .loop := by simp [Cx.fk]

theorem push_flowFlag (cx : Cx) (l : LCtx) : (cx.push l).flowFlag = .intr l.id := by
  simp [Cx.flowFlag]

theorem push_ownerUsed (cx : Cx) (l : LCtx) : ownerUsed (cx.push l) = l.used := by
  simp [ownerUsed]

theorem outerFlags_push (cx : Cx) (l : LCtx) : outerFlags (cx.push l) = ctxFlags cx := by
  simp [outerFlags, ctxFlags]

theorem ctxFlags_push (cx : Cx) (l : LCtx) :
    ctxFlags (cx.push l) = loopFlags cx.loops ++ [Flag.brk l.id, Flag.intr l.id] ++ [Flag.ret] := by
  simp [ctxFlags, loopFlags]

theorem mem_ctxFlags {cx : Cx} {f : Flag} :
    f ∈ ctxFlags cx ↔ (∃ l ∈ cx.loops, f = .brk l.id ∨ f = .intr l.id) ∨ f = .ret := by
  simp only [ctxFlags, loopFlags, List.mem_append, List.mem_flatMap, List.mem_cons, List.not_mem_nil, or_false]

theorem mem_ctxFlags_push {cx : Cx} {l : LCtx} {f : Flag} (h : f ∈ ctxFlags cx) : f ∈ ctxFlags (cx.push l) := by
  rw [mem_ctxFlags] at h ⊢
  exact h.imp_left fun ⟨l', hl', e⟩ => ⟨l', by simp [hl'], e⟩

theorem brk_mem_ctxFlags {cx : Cx} {l : LCtx} (h : l ∈ cx.loops) : Flag.brk l.id ∈ ctxFlags cx :=
  mem_ctxFlags.mpr (Or.inl ⟨l, h, Or.inl rfl⟩)

theorem intr_mem_ctxFlags {cx : Cx} {l : LCtx} (h : l ∈ cx.loops) : Flag.intr l.id ∈ ctxFlags cx :=
  mem_ctxFlags.mpr (Or.inl ⟨l, h, Or.inr rfl⟩)

theorem flowFlag_mem (cx : Cx) : cx.flowFlag ∈ ctxFlags cx := by
  unfold Cx.flowFlag
  cases h : cx.loops.getLast? with
  | none => exact mem_ctxFlags.mpr (Or.inr rfl)
  | some l => exact intr_mem_ctxFlags (List.mem_of_getLast? h)

theorem outer_sub_ctx {cx : Cx} {f : Flag} (h : f ∈ outerFlags cx) : f ∈ ctxFlags cx := by
  simp only [outerFlags, ctxFlags, loopFlags, List.mem_append, List.mem_flatMap, List.mem_singleton] at *
  exact h.imp_left fun ⟨l, hl, h1⟩ => ⟨l, List.dropLast_subset _ hl, h1⟩

theorem exists_push {cx : Cx} {l : LCtx} (hl : cx.loops.getLast? = some l) : ∃ cx0 : Cx, cx = cx0.push l := by
  obtain ⟨ys, hs⟩ := List.getLast?_eq_some_iff.mp hl
  exact ⟨{ cx with loops := ys }, by cases cx; simp only [Cx.push] at hs ⊢; rw [hs]⟩

theorem exists_last {cx : Cx} (h : cx.loops.isEmpty = false) : ∃ l, cx.loops.getLast? = some l :=
  Option.isSome_iff_exists.mp (List.getLast?_isSome.mpr (List.isEmpty_eq_false_iff.mp h))

theorem ctxFlags_cases {cx : Cx} {l : LCtx} (hl : cx.loops.getLast? = some l) {f : Flag} (h : f ∈ ctxFlags cx) :
    f = .brk l.id ∨ f = .intr l.id ∨ f ∈ outerFlags cx := by
  obtain ⟨cx0, rfl⟩ := exists_push hl
  rw [outerFlags_push]
  rw [ctxFlags_push] at h
  simp only [ctxFlags, List.mem_append, List.mem_cons, List.not_mem_nil, or_false] at h ⊢
  rcases h with (h | h | h) | h
  · exact Or.inr (Or.inr (Or.inl h))
  · exact Or.inl h
  · exact Or.inr (Or.inl h)
  · exact Or.inr (Or.inr (Or.inr h))

/-! ### side conditions -/

def Distinct (cx : Cx) : Prop := cx.loops.Pairwise fun a b => a.id ≠ b.id

def GoodS (cx : Cx) (x : Sk) : Prop :=
  wf (!cx.loops.isEmpty) cx.inFn x = true ∧ Fresh cx (loopIds x) ∧ (guardsInS cx.fk x = true → ownerUsed cx = true) ∧
    Distinct cx

def GoodB (cx : Cx) (b : List Sk) : Prop :=
  wfL (!cx.loops.isEmpty) cx.inFn b = true ∧ Fresh cx (loopIdsL b) ∧ (guardsInL cx.fk b = true → ownerUsed cx = true) ∧
    Distinct cx

theorem fresh_sub {cx : Cx} {a b : List Nat} (h : Fresh cx a) (hs : ∀ x ∈ b, x ∈ a) : Fresh cx b :=
  fun c hc l hl => h c (hs c hc) l hl

theorem fresh_not_mem {cx : Cx} {c : Nat} {ids : List Nat} (h : Fresh cx ids) (hc : c ∈ ids) :
    Flag.brk c ∉ ctxFlags cx ∧ Flag.intr c ∉ ctxFlags cx := by
  simp only [mem_ctxFlags, Flag.brk.injEq, Flag.intr.injEq, reduceCtorEq, or_false, false_or, not_exists, not_and]
  exact ⟨fun l hl e => h c hc l hl e.symm, fun l hl e => h c hc l hl e.symm⟩

/-- the flags of a loop are not among those of the loops around it -/
theorem push_fresh {cx : Cx} {l : LCtx} (hd : Distinct (cx.push l)) :
    Flag.brk l.id ∉ ctxFlags cx ∧ Flag.intr l.id ∉ ctxFlags cx :=
  fresh_not_mem (ids := [l.id]) (fun _ hc a ha =>
    List.mem_singleton.mp hc ▸ (List.pairwise_append.mp hd).2.2 a ha l (List.mem_singleton_self l)) (List.mem_singleton_self _)

theorem outer_ne_inner {cx : Cx} {l : LCtx} (hd : Distinct cx) (hl : cx.loops.getLast? = some l) {f : Flag}
    (hf : f ∈ outerFlags cx) : f ≠ .brk l.id ∧ f ≠ .intr l.id := by
  obtain ⟨cx0, rfl⟩ := exists_push hl
  rw [outerFlags_push] at hf
  exact ⟨fun e => (push_fresh hd).1 (e ▸ hf), fun e => (push_fresh hd).2 (e ▸ hf)⟩

theorem good_ite {cx : Cx} {c : Nat} {t e : List Sk} (h : GoodS cx (.ite c t e)) : GoodB cx t ∧ GoodB cx e := by
  obtain ⟨h1, h2, h3, h4⟩ := h
  simp only [wf, Bool.and_eq_true] at h1
  simp only [guardsInS, Bool.or_eq_true] at h3
  exact ⟨⟨h1.1, fresh_sub h2 (fun x hx => by simp [loopIds, hx]), fun hg => h3 (Or.inl hg), h4⟩,
    h1.2, fresh_sub h2 (fun x hx => by simp [loopIds, hx]), fun hg => h3 (Or.inr hg), h4⟩

theorem goodB_ite_t {cx : Cx} {c : Nat} {t e : List Sk} (h : GoodS cx (.ite c t e)) : GoodB cx t := (good_ite h).1

theorem goodB_ite_e {cx : Cx} {c : Nat} {t e : List Sk} (h : GoodS cx (.ite c t e)) : GoodB cx e := (good_ite h).2

theorem good_loop {cx : Cx} {w : Bool} {c : Nat} {b e : List Sk} (h : GoodS cx (Sk.loop w c b e)) :
    GoodB (cx.push ⟨c, w, guardsInL .loop b⟩) b ∧ GoodB cx e := by
  obtain ⟨h1, h2, h3, h4⟩ := h
  simp only [wf_loop, Bool.and_eq_true, Bool.not_eq_true', List.contains_eq_mem, decide_eq_false_iff_not] at h1
  rw [loopIds_loop] at h2
  rw [guardsInS_loop] at h3
  refine ⟨⟨?_, ?_, ?_, ?_⟩, h1.2, fresh_sub h2 (fun x hx => by simp [hx]), h3, h4⟩
  · rw [show (cx.push ⟨c, w, guardsInL .loop b⟩).loops.isEmpty = false by simp]
    exact h1.1.2
  · intro d hd l hl
    simp only [push_loops, List.mem_append, List.mem_singleton] at hl
    rcases hl with hl | rfl
    · exact h2 d (by simp [hd]) l hl
    · intro (e : c = d)
      exact h1.1.1 (e ▸ hd)
  · rw [push_ownerUsed, push_fk]
    exact id
  · exact List.pairwise_append.mpr ⟨h4, List.pairwise_singleton _ _,
      fun a ha _ hb => List.mem_singleton.mp hb ▸ h2 c (by simp) a ha⟩

theorem goodS_of_cons {cx : Cx} {x : Sk} {xs : List Sk} (h : GoodB cx (x :: xs)) : GoodS cx x := by
  obtain ⟨h1, h2, h3, h4⟩ := h
  simp only [wfL, Bool.and_eq_true] at h1
  refine ⟨h1.1, fresh_sub h2 (by intro y hy; simp [loopIdsL, hy]), ?_, h4⟩
  intro hg
  apply h3
  simp only [guardsInL]
  cases hd : x.isDirect
  · simp [hg]
  · cases x <;> simp [Sk.isDirect] at hd <;> simp [guardsInS] at hg

theorem goodB_of_cons {cx : Cx} {x : Sk} {xs : List Sk} (h : GoodB cx (x :: xs)) (hd : x.isDirect = false) :
    GoodB cx xs := by
  obtain ⟨h1, h2, h3, h4⟩ := h
  simp only [wfL, Bool.and_eq_true] at h1
  refine ⟨h1.2, fresh_sub h2 (by intro y hy; simp [loopIdsL, hy]), ?_, h4⟩
  intro hg
  apply h3
  simp [guardsInL, hd, hg]

theorem good_module (style : IfStyle) (wrap : Wrapper) (p : List Sk) (h : WfModule p) :
    GoodB { style := style, wrap := wrap } p := by
  refine ⟨by simpa [WfModule] using h, fun _ _ _ hl => by simp at hl, ?_, List.Pairwise.nil⟩
  intro hg
  have : ({ style := style, wrap := wrap } : Cx).fk = .none := by simp [Cx.fk]
  rw [this, guardsInL_none] at hg
  cases hg

theorem good_function (style : IfStyle) (wrap : Wrapper) (p : List Sk) (h : WfFunction p) :
    GoodB { style := style, wrap := wrap, loops := [], inFn := true, fnUsed := guardsInL .function p } p := by
  refine ⟨by simpa [WfFunction] using h, fun _ _ _ hl => by simp at hl, ?_, List.Pairwise.nil⟩
  intro hg
  simpa [ownerUsed, Cx.fk] using hg

/-! ### exit conditions -/

variable {σ : Type} {W : World σ}

theorem post_normal_refl (cx : Cx) (fl : Flag → Bool) (rv : Option Nat) : Post cx .normal fl rv fl rv :=
  ⟨fun _ _ => rfl, rfl⟩

/-- exit conditions compose with a normal completion before them -/
theorem post_trans_normal {cx : Cx} {sig : Sig} {fl fl1 fl' : Flag → Bool} {rv rv1 rv' : Option Nat}
    (h1 : Post cx .normal fl rv fl1 rv1) (h2 : Post cx sig fl1 rv1 fl' rv') : Post cx sig fl rv fl' rv' := by
  obtain ⟨h1, rfl⟩ := h1
  cases sig with
  | normal =>
    obtain ⟨ha, hb⟩ := h2
    exact ⟨fun f hf => (ha f hf).trans (h1 f hf), hb⟩
  | brk =>
    obtain ⟨l, hl, hb, hi, ho, hr⟩ := h2
    exact ⟨l, hl, hb, hi, fun f hf => (ho f hf).trans (h1 f (outer_sub_ctx hf)), hr⟩
  | cont =>
    obtain ⟨l, hl, hb, hi, ho, hr⟩ := h2
    have hm : l ∈ cx.loops := List.mem_of_getLast? hl
    exact ⟨l, hl, hb.trans (h1 _ (brk_mem_ctxFlags hm)), hi, fun f hf => (ho f hf).trans (h1 f (outer_sub_ctx hf)), hr⟩
  | ret v => exact h2

theorem inv_of_agree {cx : Cx} {fl fl1 : Flag → Bool} (h : ∀ f ∈ ctxFlags cx, fl1 f = fl f) (hinv : Inv cx fl) :
    Inv cx fl1 :=
  fun hu => (h _ (flowFlag_mem cx)).trans (hinv hu)

theorem post_flow_true {cx : Cx} {sig : Sig} {fl fl' : Flag → Bool} {rv rv' : Option Nat}
    (hs : sig ≠ .normal) (h : Post cx sig fl rv fl' rv') (hu : ownerUsed cx = true) : fl' cx.flowFlag = true := by
  unfold ownerUsed at hu
  unfold Cx.flowFlag
  cases sig with
  | normal => exact absurd rfl hs
  | brk | cont =>
    obtain ⟨l, hl, hb, hi, ho, hr⟩ := h
    rw [hl] at hu ⊢
    exact hi hu
  | ret v =>
    obtain ⟨hl, hf, hr⟩ := h
    cases hg : cx.loops.getLast? with
    | none => rw [hg] at hu; exact hf hu
    | some l =>
      rw [hg] at hu
      exact (hl l (List.mem_of_getLast? hg)).2 hu

theorem post_brk_loops {cx : Cx} {sig : Sig} {fl fl' : Flag → Bool} {rv rv' : Option Nat}
    (hs : sig = .brk ∨ sig = .cont) (h : Post cx sig fl rv fl' rv') : cx.loops.isEmpty = false := by
  rcases hs with rfl | rfl <;>
  · obtain ⟨l, hl, _⟩ := h
    exact List.isEmpty_eq_false_iff.mpr (List.ne_nil_of_mem (List.mem_of_getLast? hl))

theorem post_top {cx : Cx} {sig : Sig} {fl fl' : Flag → Bool} {rv rv' : Option Nat} (h : cx.loops = [])
    (hp : Post cx sig fl rv fl' rv') : sig = .normal ∨ ∃ v, sig = .ret v := by
  cases sig with
  | normal => exact Or.inl rfl
  | ret v => exact Or.inr ⟨v, rfl⟩
  | brk => have := post_brk_loops (Or.inl rfl) hp; rw [h] at this; cases this
  | cont => have := post_brk_loops (Or.inr rfl) hp; rw [h] at this; cases this

/-- a statement that stops its block is one the analysis says may interrupt: `lowerB` has put a guard behind it
    (`eval_cons_skip`) -/
theorem stop_mayInt {cx : Cx} {x : Sk} {s s' : σ} {sig : Sig} {fl fl' : Flag → Bool} {rv rv' : Option Nat}
    (he : Exec W (.stmt x) s s' sig) (hs : sig ≠ .normal) (hg : GoodS cx x) (hp : Post cx sig fl rv fl' rv') :
    mayInt cx.fk x = true := by
  have hposs := exec_poss he
  cases sig with
  | normal => exact absurd rfl hs
  | brk =>
    have hl := post_brk_loops (Or.inl rfl) hp
    simp only [Cx.fk, hl, Bool.not_false, ↓reduceIte, mayInt, Bool.or_eq_true]
    exact Or.inr (hasBC_mono x hposs)
  | cont =>
    have hl := post_brk_loops (Or.inr rfl) hp
    simp only [Cx.fk, hl, Bool.not_false, ↓reduceIte, mayInt, Bool.or_eq_true]
    exact Or.inr hposs
  | ret v =>
    simp only [Poss] at hposs
    unfold Cx.fk
    split
    · simp [mayInt, hposs]
    · split
      · simp [mayInt, hposs]
      · rename_i h1 h2
        have : cx.inFn = false := by simpa using h2
        have hw := hg.1
        rw [this] at hw
        rw [wf_noFn_noRet _ x hw] at hposs
        cases hposs

/-- the exit condition of a loop body, whose interrupt flag was cleared first, seen from outside the loop -/
theorem post_pop {cx : Cx} {l : LCtx} {sig : Sig} {fl fl1 fl2 : Flag → Bool} {rv rv2 : Option Nat}
    (hfresh : Flag.intr l.id ∉ ctxFlags cx) (h01 : ∀ f, f ≠ .intr l.id → fl1 f = fl f)
    (hp : Post (cx.push l) sig fl1 rv fl2 rv2) : PostLoop cx l.id sig fl rv fl2 rv2 := by
  have h0 : ∀ f ∈ ctxFlags cx, fl1 f = fl f := fun f hf => h01 f fun e => hfresh (e ▸ hf)
  have hb : fl1 (.brk l.id) = fl (.brk l.id) := h01 _ nofun
  cases sig with
  | normal =>
    exact ⟨⟨fun f hf => (hp.1 f (mem_ctxFlags_push hf)).trans (h0 f hf), hp.2⟩,
      (hp.1 _ (brk_mem_ctxFlags (cx := cx.push l) (by simp))).trans hb⟩
  | brk =>
    obtain ⟨l', hl', hb2, _, ho, hr⟩ := hp
    cases (push_getLast cx l).symm.trans hl'
    exact ⟨⟨fun f hf => (ho f (outerFlags_push cx l ▸ hf)).trans (h0 f hf), hr⟩, hb2⟩
  | cont =>
    obtain ⟨l', hl', hb2, _, ho, hr⟩ := hp
    cases (push_getLast cx l).symm.trans hl'
    exact ⟨⟨fun f hf => (ho f (outerFlags_push cx l ▸ hf)).trans (h0 f hf), hr⟩, hb2.trans hb⟩
  | ret v => exact ⟨⟨fun l' hl' => hp.1 l' (by simp [hl']), hp.2.1, hp.2.2⟩, (hp.1 l (by simp)).1⟩

theorem PostLoop.trans {cx : Cx} {c : Nat} {sig : Sig} {fl fl2 fl' : Flag → Bool} {rv rv2 rv' : Option Nat}
    (h1 : PostLoop cx c .normal fl rv fl2 rv2) (hp : PostLoop cx c sig fl2 rv2 fl' rv') : PostLoop cx c sig fl rv fl' rv' :=
  ⟨post_trans_normal h1.1 hp.1, (show fl2 (.brk c) = fl (.brk c) from h1.2) ▸ hp.2⟩

end OlVerif.Ctrl
