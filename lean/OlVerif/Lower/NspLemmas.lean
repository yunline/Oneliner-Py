/-
  What `get_load_name` / `get_assign` can return, whatever the namespace.
-/
import OlVerif.Lower.Nsp

namespace OlVerif

/-- a load is spelled as the plain name or as a subscript of some dictionary -/
theorem Nsp.getLoad_cases {n : Nsp} {b : List String} {x : String} {e : Expr} (h : n.getLoad b x = .ok e) :
    e = .name x ∨ ∃ d, e = dictLoad d x := by
  unfold Nsp.getLoad at h
  -- every leaf of the decision tree is an error, `.ok (.name x)` or `.ok (dictLoad _ x)`
  repeat' split at h
  all_goals cases h
  all_goals first | exact .inl rfl | exact .inr ⟨_, rfl⟩

/-- a store is spelled as the walrus itself or as a `__setitem__` call on `globals()` or on some dictionary -/
theorem Nsp.getAssign_cases {n : Nsp} {x : String} {v e : Expr} (h : n.getAssign x v = .ok e) :
    e = .namedExpr x v ∨ e = globalsSetitem x v ∨ ∃ d, e = dictSetitem d x v := by
  unfold Nsp.getAssign at h
  repeat' split at h
  all_goals cases h
  all_goals first | exact .inl rfl | exact .inr (.inl rfl) | exact .inr (.inr ⟨_, rfl⟩)

theorem getLoad_module {n : Nsp} (hn : n.kind = .module) (b : List String) (x : String) :
    n.getLoad b x = .ok (.name x) := by
  unfold Nsp.getLoad; rw [hn]

theorem getAssign_module {n : Nsp} (hn : n.kind = .module) (x : String) (v : Expr) :
    n.getAssign x v = .ok (.namedExpr x v) := by
  unfold Nsp.getAssign; rw [hn]

end OlVerif
