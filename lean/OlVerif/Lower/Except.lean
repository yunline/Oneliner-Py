/-
  Inversion of the error monad: what `(do …) = .ok r` says about the steps.  The equivalences are for `simp only
  [f, bind_eq_ok, pure_eq_ok] at h`, which turns a whole `do` block into nested existentials at once; `bind_ok` /
  `pure_ok` take it apart step by step where the steps are interleaved with case splits.
-/
import OlVerif.Lower.Nsp

namespace OlVerif

theorem bind_eq_ok {α β : Type} {x : Except Err α} {f : α → Except Err β} {r : β} :
    (x >>= f) = .ok r ↔ ∃ a, x = .ok a ∧ f a = .ok r := by
  cases x <;> simp [bind, Except.bind]

theorem pure_eq_ok {α : Type} {x r : α} : (pure x : Except Err α) = .ok r ↔ x = r := by
  simp [pure, Except.pure]

theorem bind_ok {α β : Type} {x : Except Err α} {f : α → Except Err β} {r : β} (h : x >>= f = .ok r) :
    ∃ a, x = .ok a ∧ f a = .ok r := bind_eq_ok.1 h

theorem pure_ok {α : Type} {x r : α} (h : (pure x : Except Err α) = .ok r) : x = r := pure_eq_ok.1 h

theorem ite_ok {α : Type} {c : Prop} [Decidable c] {a b : Except Err α} {r : α}
    (h : (if c then a else b) = .ok r) : (c ∧ a = .ok r) ∨ (¬ c ∧ b = .ok r) := by
  split at h
  · rename_i hc; exact Or.inl ⟨hc, h⟩
  · rename_i hc; exact Or.inr ⟨hc, h⟩

end OlVerif
