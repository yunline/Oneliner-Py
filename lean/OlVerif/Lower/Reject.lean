/-
  Rejection at any depth: if a construct the converter does not support (yield / yield from /
  await in an expression; a statement of an unsupported kind; break / continue outside a loop;
  return outside a function; a second starred name in one target pattern; an unknown assignment
  target) occurs in any position the lowering visits, `lowerFull` returns an error - whatever the
  nesting depth, the surrounding statements, the configuration and the symbol tables.

  `IsErr x` = "x is an error".  Each `…_err` is read off its contrapositive: a run that succeeded (for
  expressions by `TransfCases`, for statements a derivation of the graph, Lower/Lowers.lean) holds nothing
  that is refused (`transf_noUnsup_cases`, `…notBad`), and `isErr_of_bad` turns that round.
-/
import OlVerif.Lower.Lowers
import OlVerif.Lower.TransfInd


namespace OlVerif

def IsErr {α : Type} (x : Except Err α) : Prop := ∃ e, x = .error e

theorem isErr_throw {α : Type} (e : Err) : IsErr (throw e : Except Err α) := ⟨e, rfl⟩

theorem isErr_bind_l {α β : Type} {x : Except Err α} {f : α → Except Err β} (h : IsErr x) : IsErr (x >>= f) := by
  obtain ⟨e, rfl⟩ := h; exact ⟨e, rfl⟩

theorem isErr_bind_r {α β : Type} {x : Except Err α} {f : α → Except Err β} (h : ∀ a, IsErr (f a)) :
    IsErr (x >>= f) := by
  cases x with
  | error e => exact ⟨e, rfl⟩
  | ok a => exact h a

theorem not_isErr_ok {α : Type} (a : α) : ¬ IsErr (.ok a : Except Err α) := by
  intro ⟨e, h⟩; cases h

theorem isErr_of_bad {α : Type} {x : Except Err α} {b : Bool} (hb : b = true) (h : ∀ a, x = .ok a → b = false) :
    IsErr x := by
  cases x with
  | error e => exact ⟨e, rfl⟩
  | ok a => rw [h a rfl] at hb; cases hb

/-! ### expressions: yield / yield from / await anywhere the transformer walks -/

mutual
  def hasUnsup : Expr → Bool
    | .yield_ _ | .yieldFrom _ | .await _ => true
    | .name _ | .const _ => false
    | .namedExpr _ v => hasUnsup v
    | .lambda (.mk _ _ _ _ kd _ ds) body => hasUnsupL ds || hasUnsupOL kd || hasUnsup body
    | .listComp elt gens => hasUnsup elt || hasUnsupG gens
    | .setComp elt gens => hasUnsup elt || hasUnsupG gens
    | .generatorExp elt gens => hasUnsup elt || hasUnsupG gens
    | .dictComp k v gens => hasUnsup k || hasUnsup v || hasUnsupG gens
    | .joinedStr vs => hasUnsupL vs
    | .formattedValue v _ s => hasUnsup v || hasUnsupO s
    | .list es => hasUnsupL es
    | .tuple es => hasUnsupL es
    | .set es => hasUnsupL es
    | .dict items => hasUnsupD items
    | .starred v => hasUnsup v
    | .attribute v _ => hasUnsup v
    | .subscript v s => hasUnsup v || hasUnsup s
    | .slice a b c => hasUnsupO a || hasUnsupO b || hasUnsupO c
    | .call f as ks => hasUnsup f || hasUnsupL as || hasUnsupK ks
    | .binOp a _ b => hasUnsup a || hasUnsup b
    | .boolOp _ vs => hasUnsupL vs
    | .unaryOp _ v => hasUnsup v
    | .compare l _ cs => hasUnsup l || hasUnsupL cs
    | .ifExp t b e => hasUnsup t || hasUnsup b || hasUnsup e
  def hasUnsupL : List Expr → Bool
    | [] => false
    | e :: es => hasUnsup e || hasUnsupL es
  def hasUnsupO : Option Expr → Bool
    | none => false
    | some e => hasUnsup e
  def hasUnsupOL : List (Option Expr) → Bool
    | [] => false
    | none :: es => hasUnsupOL es
    | some e :: es => hasUnsup e || hasUnsupOL es
  def hasUnsupD : List DictItem → Bool
    | [] => false
    | .mk none v :: its => hasUnsup v || hasUnsupD its
    | .mk (some k) v :: its => hasUnsup k || hasUnsup v || hasUnsupD its
  def hasUnsupK : List Keyword → Bool
    | [] => false
    | .mk _ v :: ks => hasUnsup v || hasUnsupK ks
  def hasUnsupG : List Comp → Bool
    | [] => false
    | .mk t i ifs _ :: gs => hasUnsupT t || hasUnsup i || hasUnsupL ifs || hasUnsupG gs
  /-- a comprehension target -/
  def hasUnsupT : Expr → Bool
    | .tuple es => hasUnsupTs es
    | .list es => hasUnsupTs es
    | .starred v => hasUnsupT v
    | .attribute v _ => hasUnsup v
    | .subscript v s => hasUnsup v || hasUnsup s
    | _ => false
  def hasUnsupTs : List Expr → Bool
    | [] => false
    | e :: es => hasUnsupT e || hasUnsupTs es
end

/-- where the transformer succeeds there was no yield / await: every equation that succeeds only copies -/
theorem transf_noUnsup_cases (n : Nsp) :
    TransfCases n (fun _ e _ => hasUnsup e = false) (fun _ es _ => hasUnsupL es = false) (fun _ o _ => hasUnsupO o = false)
      (fun _ es _ => hasUnsupOL es = false) (fun _ its _ => hasUnsupD its = false) (fun _ ks _ => hasUnsupK ks = false)
      (fun _ _ gs _ => hasUnsupG gs = false) (fun _ t _ => hasUnsupT t = false) (fun _ es _ => hasUnsupTs es = false) where
  name _ := by simp only [hasUnsup]
  const := rfl
  walrus hv := by simp only [hasUnsup, hv]
  walrusStore hv _ _ _ := by simp only [hasUnsup, hv]
  lambda hds hkd hb := by simp only [hasUnsup, hds, hkd, hb, Bool.or_self]
  listComp _ he hg := by simp only [hasUnsup, he, hg, Bool.or_self]
  setComp _ he hg := by simp only [hasUnsup, he, hg, Bool.or_self]
  generatorExp _ he hg := by simp only [hasUnsup, he, hg, Bool.or_self]
  dictComp _ hk hv hg := by simp only [hasUnsup, hk, hv, hg, Bool.or_self]
  joinedStr h := by simp only [hasUnsup, h]
  formattedValue hv hs := by simp only [hasUnsup, hv, hs, Bool.or_self]
  list h := by simp only [hasUnsup, h]
  tuple h := by simp only [hasUnsup, h]
  set h := by simp only [hasUnsup, h]
  dict h := by simp only [hasUnsup, h]
  starred h := by simp only [hasUnsup, h]
  attr h := by simp only [hasUnsup, h]
  subscript hv hs := by simp only [hasUnsup, hv, hs, Bool.or_self]
  slice hx hy hz := by simp only [hasUnsup, hx, hy, hz, Bool.or_self]
  call hf ha hk := by simp only [hasUnsup, hf, ha, hk, Bool.or_self]
  binOp hx hy := by simp only [hasUnsup, hx, hy, Bool.or_self]
  boolOp h := by simp only [hasUnsup, h]
  unaryOp h := by simp only [hasUnsup, h]
  compare hl hc := by simp only [hasUnsup, hl, hc, Bool.or_self]
  ifExp ht hx hy := by simp only [hasUnsup, ht, hx, hy, Bool.or_self]
  listNil := rfl
  listCons he hes := by simp only [hasUnsupL, he, hes, Bool.or_self]
  optNone := rfl
  optSome h := by simp only [hasUnsupO, h]
  optListNil := rfl
  optListNone h := by simp only [hasUnsupOL, h]
  optListSome he hes := by simp only [hasUnsupOL, he, hes, Bool.or_self]
  itemsNil := rfl
  itemsStar hv hi := by simp only [hasUnsupD, hv, hi, Bool.or_self]
  itemsKey hk hv hi := by simp only [hasUnsupD, hk, hv, hi, Bool.or_self]
  kwNil := rfl
  kwCons hv hk := by simp only [hasUnsupK, hv, hk, Bool.or_self]
  compsNil := rfl
  compsCons ht hi hifs hg := by simp only [hasUnsupG, ht, hi, hifs, hg, Bool.or_self]
  tTuple h := by simp only [hasUnsupT, h]
  tList h := by simp only [hasUnsupT, h]
  tStarred h := by simp only [hasUnsupT, h]
  tAttribute h := by simp only [hasUnsupT, h]
  tSubscript hv hs := by simp only [hasUnsupT, hv, hs, Bool.or_self]
  tOther := hasUnsupT.eq_6 _
  tsNil := rfl
  tsCons he hes := by simp only [hasUnsupTs, he, hes, Bool.or_self]

theorem transf_err (n : Nsp) : ∀ (bound : List String) (e : Expr), hasUnsup e = true → IsErr (transf n bound e) :=
  fun _ _ hb => isErr_of_bad hb fun _ => (transf_noUnsup_cases n).expr

theorem transfList_err (n : Nsp) : ∀ (bound : List String) (es : List Expr), hasUnsupL es = true → IsErr (transfList n bound es) :=
  fun _ _ hb => isErr_of_bad hb fun _ => (transf_noUnsup_cases n).exprs

theorem transfOpt_err (n : Nsp) : ∀ (bound : List String) (o : Option Expr), hasUnsupO o = true → IsErr (transfOpt n bound o) :=
  fun _ _ hb => isErr_of_bad hb fun _ => (transf_noUnsup_cases n).opt

theorem transfOptList_err (n : Nsp) : ∀ (bound : List String) (es : List (Option Expr)),
    hasUnsupOL es = true → IsErr (transfOptList n bound es) :=
  fun _ _ hb => isErr_of_bad hb fun _ => (transf_noUnsup_cases n).opts

theorem transfItems_err (n : Nsp) : ∀ (bound : List String) (its : List DictItem),
    hasUnsupD its = true → IsErr (transfItems n bound its) :=
  fun _ _ hb => isErr_of_bad hb fun _ => (transf_noUnsup_cases n).items

theorem transfKeywords_err (n : Nsp) : ∀ (bound : List String) (ks : List Keyword),
    hasUnsupK ks = true → IsErr (transfKeywords n bound ks) :=
  fun _ _ hb => isErr_of_bad hb fun _ => (transf_noUnsup_cases n).keywords

theorem transfComps_err (n : Nsp) : ∀ (first bound : List String) (gs : List Comp),
    hasUnsupG gs = true → IsErr (transfComps n first bound gs) :=
  fun _ _ _ hb => isErr_of_bad hb fun _ => (transf_noUnsup_cases n).comps

theorem transfTarget_err (n : Nsp) : ∀ (bound : List String) (e : Expr), hasUnsupT e = true → IsErr (transfTarget n bound e) :=
  fun _ _ hb => isErr_of_bad hb fun _ => (transf_noUnsup_cases n).target

theorem transfTargets_err (n : Nsp) : ∀ (bound : List String) (es : List Expr),
    hasUnsupTs es = true → IsErr (transfTargets n bound es) :=
  fun _ _ hb => isErr_of_bad hb fun _ => (transf_noUnsup_cases n).targets

/-! ### assignment targets -/

mutual
  /-- `assign_auto` refuses this target: a second star in one pattern, a star outside a pattern, a
      target of an unknown kind, or yield / await inside an attribute / subscript target -/
  def badTarget (inPattern : Bool) : Expr → Bool
    | .name _ => false
    | .attribute v _ => hasUnsup v
    | .subscript v s => hasUnsup v || hasUnsup s
    | .tuple es => badElts false es
    | .list es => badElts false es
    | .starred sub => if inPattern then badTarget false sub else true
    | _ => true
  def badElts (haveStarred : Bool) : List Expr → Bool
    | [] => false
    | e :: es => (e.isStarred && haveStarred) || badTarget true e || badElts (haveStarred || e.isStarred) es
end


theorem AssignsElts.notBad {n : Nsp} {inP : Bool} {val : Nat → Bool → Expr → Expr} {index : Nat} {hs : Bool}
    {ts : List Expr} {st st' : St} {es : List Expr} (h : AssignsElts n inP val index hs ts st es st') :
    (inP = true → badElts hs ts = false) ∧ ∀ t ∈ ts, badTarget inP t = false := by
  induction h using AssignsElts.rec (motive_1 := fun inP t _ _ _ _ _ => badTarget inP t = false) with
  | name _ => simp only [badTarget]
  | «attribute» ho => simp only [badTarget]; exact (transf_noUnsup_cases n).expr ho
  | subscript ho hs =>
      simp only [badTarget, (transf_noUnsup_cases n).expr ho, (transf_noUnsup_cases n).expr hs, Bool.or_false]
  | tuple _ ih | list _ ih => simp only [badTarget]; exact ih.1 rfl
  | starred _ ih => simp only [badTarget, if_true]; exact ih
  | nil => exact ⟨fun _ => by simp only [badElts], fun _ h => nomatch h⟩
  | cons _ _ hn iha ihb =>
      refine ⟨fun hp => ?_, fun t ht => ?_⟩
      · subst hp; simp only [badElts, hn, iha, ihb.1 rfl, Bool.or_false]
      · rcases List.mem_cons.mp ht with rfl | ht
        · exact iha
        · exact ihb.2 t ht

theorem assignElts_err (n : Nsp) : ∀ (tmp : String) (len index : Nat) (hs : Bool) (es : List Expr) (st : St),
    badElts hs es = true → IsErr (assignElts n tmp len index hs es st) :=
  fun tmp len index hs es st hb => isErr_of_bad hb fun r h =>
    (assignElts_graph n tmp len index hs es st r.1 r.2 h).notBad.1 rfl

def badTargets : List Expr → Bool
  | [] => false
  | t :: ts => badTarget false t || badTargets ts


theorem badTargets_false : ∀ (ts : List Expr), (∀ t ∈ ts, badTarget false t = false) → badTargets ts = false
  | [], _ => rfl
  | t :: ts, h => by
      simp only [badTargets, h t List.mem_cons_self, badTargets_false ts fun x hx => h x (List.mem_cons_of_mem _ hx),
        Bool.or_false]

/-! ### statements -/

def hasUnsupArgs : Arguments → Bool
  | .mk _ _ _ _ kd _ ds => hasUnsupL ds || hasUnsupOL kd

def badAugTarget : Expr → Bool
  | .name _ => false
  | .subscript a b => hasUnsup a || hasUnsup b
  | .attribute a _ => hasUnsup a
  | _ => true

def starImport : List Alias → Bool
  | [] => false
  | a :: as => a.name == "*" || starImport as

mutual
  /-- the statement holds, in a position the lowering visits, something the converter does not
      support; `inLoop` / `inFn`: is the statement inside a loop / directly inside a function of the
      current namespace -/
  def badS (inLoop inFn : Bool) : Stmt → Bool
    | .other .. => true
    | .expr v => hasUnsup v
    | .pass_ => false
    | .global_ _ => false
    | .nonlocal_ _ => false
    | .break_ => !inLoop
    | .continue_ => !inLoop
    | .return_ v => !inFn || hasUnsupO v
    | .if_ t b e => hasUnsup t || badL inLoop inFn b || badL inLoop inFn e
    | .while_ t b e => hasUnsup t || badL true inFn b || badL inLoop inFn e
    | .for_ tg it b e => badTarget false tg || hasUnsup it || badL true inFn b || badL inLoop inFn e
    | .assign ts v => hasUnsup v || badTargets ts
    | .annAssign tg _ v => match v with
        | none => false
        | some v => hasUnsup v || badTarget false tg
    | .augAssign tg _ v => hasUnsup v || badAugTarget tg
    | .import_ _ => false
    | .importFrom _ names _ => starImport names
    | .functionDef _ args body decos _ => hasUnsupArgs args || hasUnsupL decos || badL false true body
    | .classDef _ bases kws body decos _ =>
        hasUnsupL bases || hasUnsupK kws || hasUnsupL decos || badL false false body
  /-- a block, cut after its first direct break / continue / return as the converter cuts it -/
  def badL (inLoop inFn : Bool) : List Stmt → Bool
    | [] => false
    | s :: ss => badS inLoop inFn s || (!s.isDirect && badL inLoop inFn ss)
end

/-- the lowering context agrees with the syntactic position -/
def CtxRel (cx : Ctx) (inLoop inFn : Bool) : Prop :=
  (inLoop = false → cx.loops = []) ∧ (inFn = false → (cx.nsp.kind != .function) = true)

theorem AugAssigns.notBad {n : Nsp} {op : BinOpK} {v : Expr} {st st' : St} {tg : Expr} {es : List Expr}
    (h : AugAssigns n op v st tg es st') : badAugTarget tg = false := by
  cases h with
  | name _ _ => simp only [badAugTarget]
  | subscript hp hi =>
    simp only [badAugTarget, (transf_noUnsup_cases n).expr hp, (transf_noUnsup_cases n).expr hi, Bool.or_false]
  | «attribute» hp => simp only [badAugTarget]; exact (transf_noUnsup_cases n).expr hp

theorem ClassKws.notBad {n : Nsp} {ks rest : List Keyword} {m : Option Expr} (h : ClassKws n ks m rest) :
    hasUnsupK ks = false := by
  induction h with
  | nil => rfl
  | metaclass _ hv ih | other _ hv _ ih => simp only [hasUnsupK, (transf_noUnsup_cases n).expr hv, ih, Bool.or_false]

theorem starImport_false : ∀ (as : List Alias), (∀ a ∈ as, (a.name == "*") = false) → starImport as = false
  | [], _ => rfl
  | a :: as, h => by
      simp only [starImport, h a List.mem_cons_self, starImport_false as fun x hx => h x (List.mem_cons_of_mem _ hx),
        Bool.or_false]

theorem Redecorated.notBad {n : Nsp} {name : String} {self : Expr} {ds tail : List Expr}
    (h : Redecorated n name self ds tail) : hasUnsupL ds = false := by
  cases h with
  | none => rfl
  | some hds _ _ => exact (transf_noUnsup_cases n).exprs hds

theorem ctxRel_push {cx : Ctx} {il ifn : Bool} (hr : CtxRel cx il ifn) (l : LoopCtx) : CtxRel (cx.push l) true ifn :=
  ⟨fun h => (nomatch h), hr.2⟩

theorem LowersB.notBad {cx : Ctx} {ss : List Stmt} {st st' : St} {es : List Expr} (h : LowersB cx ss st es st')
    (il ifn : Bool) (hr : CtxRel cx il ifn) : badL il ifn ss = false := by
  induction h using LowersB.rec
    (motive_1 := fun cx s _ _ _ _ => ∀ il ifn, CtxRel cx il ifn → badS il ifn s = false) generalizing il ifn with
  | expr hv il ifn _ => simp only [badS]; exact (transf_noUnsup_cases _).expr hv
  | pass_ | global_ | nonlocal_ | annAssign_ | import_ => simp only [badS]
  | break_ hl il ifn hr | continue_ hl il ifn hr =>
      cases il with
      | true => simp only [badS, Bool.not_true]
      | false => rw [hr.1 rfl] at hl; cases hl
  | return_ hv hk il ifn hr =>
      cases ifn with
      | true => simp only [badS, Bool.not_true, Bool.false_or]; exact (transf_noUnsup_cases _).opt hv
      | false => rw [hr.2 rfl] at hk; cases hk
  | if_ _ _ ht ihb iho il ifn hr =>
      simp only [badS, (transf_noUnsup_cases _).expr ht, ihb il ifn hr, iho il ifn hr, Bool.or_false]
  | while_ _ _ ht ihb iho il ifn hr =>
      simp only [badS, (transf_noUnsup_cases _).expr ht, ihb true ifn (ctxRel_push hr _), iho il ifn hr, Bool.or_false]
  | for_ _ _ ha hi ihb iho il ifn hr =>
      simp only [badS, ha.toElts.notBad.2 _ List.mem_cons_self, (transf_noUnsup_cases _).expr hi,
        ihb true ifn (ctxRel_push hr _), iho il ifn hr, Bool.or_false]
  | assignTmp hr' hv _ il ifn _ | assign hr' hv _ il ifn _ =>
      simp only [badS, (transf_noUnsup_cases _).expr hv, badTargets_false _ hr'.notBad.2, Bool.or_false]
  | annAssign _ ih il ifn hr =>
      have := ih il ifn hr
      simp only [badS, badTargets, Bool.or_false] at this ⊢
      exact this
  | augAssign ha hv il ifn _ => simp only [badS, (transf_noUnsup_cases _).expr hv, ha.notBad, Bool.or_false]
  | importFrom h il ifn _ =>
      simp only [badS]
      exact starImport_false _ fun a ha => (h.left a ha).elim fun _ he => he.1
  | functionDef _ hds hkd hdec _ _ ihb il ifn _ =>
      simp only [badS, hasUnsupArgs, (transf_noUnsup_cases _).exprs hds, (transf_noUnsup_cases _).opts hkd,
        (transf_noUnsup_cases _).exprs hdec, ihb false true ⟨fun _ => rfl, fun h => nomatch h⟩, Bool.or_false]
  | classDef _ hk hd hbs hin _ _ ihb il ifn _ =>
      simp only [badS, (transf_noUnsup_cases _).exprs hbs, hk.notBad, hd.notBad,
        ihb false false ⟨fun _ => rfl, fun _ => by simp [findChild_kind hin]⟩, Bool.or_false]
  | nil => simp only [badL]
  | last _ hd ih =>
      simp only [badL, ih il ifn hr, Bool.false_or]
      rcases (Bool.or_eq_true _ _).mp hd with h | h
      · simp only [h, Bool.not_true, Bool.false_and]
      · cases List.isEmpty_iff.mp h; simp only [badL, Bool.and_false]
  | guard _ _ _ _ ih ihr | seq _ _ _ _ ih ihr =>
      simp only [badL, ih il ifn hr, ihr il ifn hr, Bool.and_false, Bool.or_false]

theorem lowerBlock_err : ∀ (ss : List Stmt) (cx : Ctx) (st : St) (il ifn : Bool), CtxRel cx il ifn →
      badL il ifn ss = true → IsErr (lowerBlock cx ss st) :=
  fun ss cx st il ifn hr hb => isErr_of_bad hb fun r h => (lowerBlock_graph ss cx st r.1 r.2 h).notBad il ifn hr


/-! ### the whole conversion -/

/-- module level: every statement is converted (no dead-code cut), outside any loop or function -/
def badModule : List Stmt → Bool
  | [] => false
  | s :: ss => badS false false s || badModule ss

/-- at module level a direct break / continue / return is itself refused, so the cut changes nothing -/
theorem not_badModule_of_not_badL : ∀ (ss : List Stmt), badL false false ss = false → badModule ss = false
  | [], _ => rfl
  | s :: ss, h => by
      simp only [badL, Bool.or_eq_false_iff] at h
      have hd : s.isDirect = false := by cases s <;> first | rfl | (simp [badS] at h)
      simp only [hd, Bool.not_false, Bool.true_and] at h
      simp only [badModule, h.1, not_badModule_of_not_badL ss h.2, Bool.or_false]

theorem lowerFull_err (cfg : Cfg) (root : SymScope) (body : List Stmt) (h : badModule body = true) :
    IsErr (lowerFull cfg root body) :=
  isErr_of_bad h fun e he => by
    obtain ⟨g, sup, b, st, hg, hb, _⟩ := lowerFull_graph he
    exact not_badModule_of_not_badL _ (hb.notBad false false ⟨fun _ => rfl, fun _ => by simp [generateNsp_kind hg]⟩)

end OlVerif
