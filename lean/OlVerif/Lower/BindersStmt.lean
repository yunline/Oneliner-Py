/-
  C09, part 2: every name the converted program binds is a binder of the script or a helper name.
-/
import OlVerif.Lower.Binders
import OlVerif.Lower.Lowers


namespace OlVerif

/-! ### the names of a namespace are helper names -/

def NspOK (n : Nsp) : Prop := Res n.retvName ∧ Res n.retName ∧ Res n.dictName

mutual
  /-- every namespace strictly below `n` has helper names -/
  def treeOK : Nsp → Prop
    | .mk _ _ _ _ _ _ _ _ _ _ _ children => kidsOK children
  def kidsOK : List Nsp → Prop
    | [] => True
    | c :: cs => NspOK c ∧ treeOK c ∧ kidsOK cs
end

theorem kidsOK_mem : ∀ {cs : List Nsp} {c : Nsp}, kidsOK cs → c ∈ cs → NspOK c ∧ treeOK c
  | [], c, _, hc => by cases hc
  | d :: cs, c, h, hc => by
      simp only [kidsOK] at h
      rcases List.mem_cons.mp hc with rfl | hc'
      · exact ⟨h.1, h.2.1⟩
      · exact kidsOK_mem h.2.2 hc'

mutual
  theorem buildNsp_ok : ∀ (s : SymScope) (stack : Stack) (sup : Supply) (n : Nsp) (cl : List Claim) (sup' : Supply),
      buildNsp stack sup s = .ok (n, cl, sup') → NspOK n ∧ treeOK n
    | .mk name kind lineno symbols frees nonlocals params methods children, stack, sup, n, cl, sup', h => by
        obtain ⟨_, kidClaims, i⟩ := buildNsp_inv h
        obtain ⟨globs, _, hk⟩ := i.children
        obtain ⟨_, hd⟩ := i.dictName
        refine ⟨⟨i.retvName ▸ res_supply _ _, i.retName ▸ res_supply _ _, hd ▸ res_supply _ _⟩, ?_⟩
        cases n with
        | mk _ _ _ _ _ _ _ _ _ _ _ kids =>
          simp only [treeOK]
          exact buildChildren_ok children _ _ kids kidClaims globs sup' hk
  termination_by structural s => s

  theorem buildChildren_ok : ∀ (cs : List SymScope) (stack : Stack) (sup : Supply) (kids : List Nsp) (cl : List Claim)
      (globs : List String) (sup' : Supply), buildChildren stack sup cs = .ok (kids, cl, globs, sup') → kidsOK kids
    | [], stack, sup, kids, cl, globs, sup', h => by
        simp only [buildChildren] at h; cases h; simp only [kidsOK]
    | c :: cs, stack, sup, kids, cl, globs, sup', h => by
        simp only [buildChildren] at h
        split at h
        · exact buildChildren_ok cs stack sup kids cl globs sup' h
        · split at h
          · obtain ⟨⟨kids0, cl0, globs0, sup0⟩, hk, h⟩ := bind_ok h
            cases pure_ok h
            exact buildChildren_ok cs stack sup _ _ _ _ hk
          · obtain ⟨⟨n, cl1, sup1⟩, hn, h⟩ := bind_ok h
            obtain ⟨⟨kids0, cl0, globs0, sup0⟩, hk, h⟩ := bind_ok h
            cases pure_ok h
            have h1 := buildNsp_ok c stack sup n cl1 sup1 hn
            simp only [kidsOK]
            exact ⟨h1.1, h1.2, buildChildren_ok cs stack sup1 kids0 cl0 globs0 sup0 hk⟩
  termination_by structural cs => cs
end

theorem generateNsp_ok {root : SymScope} {sup : Supply} {g : Nsp} {sup' : Supply}
    (h : generateNsp root sup = .ok (g, sup')) : treeOK g := by
  unfold generateNsp at h
  obtain ⟨⟨kids, a, b, sup2⟩, hk, h⟩ := bind_ok h
  cases pure_ok h
  simp only [treeOK]
  exact buildChildren_ok _ _ _ kids a b _ hk

theorem findChild_ok {n : Nsp} {name : String} {lineno : Nat} {k : ScopeKind} {c : Nsp}
    (h : findChild n name lineno k = .ok c) (hn : treeOK n) : NspOK c ∧ treeOK c := by
  unfold findChild at h
  split at h
  · cases h
  · rename_i c' hf
    split at h
    · cases h
      have hm := List.mem_of_find?_eq_some hf
      obtain ⟨_, _, _, _, _, _, _, _, _, _, _, children⟩ := n
      simp only [treeOK] at hn
      exact kidsOK_mem hn hm
    · cases h

/-! ### the lowering context -/

def CtxOK (cx : Ctx) : Prop :=
  treeOK cx.nsp ∧ (cx.nsp.kind = .function → NspOK cx.nsp) ∧ ∀ l ∈ cx.loops, Res l.flag ∧ Res l.intr

/-! ### binders of a script -/

def Alias.bound (a : Alias) : String :=
  if a.asname.isNone && a.name.contains '.' then (a.name.splitOn ".").headD "" else a.asname.getD a.name

mutual
  /-- the names a statement binds: targets, def / class names, parameters, imported names, and the
      binders inside its expressions (walrus, lambda parameters, comprehension targets) -/
  def srcS : Stmt → List String
    | .expr v => bnd v
    | .if_ t b e => bnd t ++ srcB b ++ srcB e
    | .while_ t b e => bnd t ++ srcB b ++ srcB e
    | .for_ tg it b e => tgtNames tg ++ bnd tg ++ bnd it ++ srcB b ++ srcB e
    | .break_ => []
    | .continue_ => []
    | .pass_ => []
    | .assign ts v => tgtNamesL ts ++ bndL ts ++ bnd v
    | .annAssign tg _ v => tgtNames tg ++ bnd tg ++ bndO v
    | .augAssign tg _ v => tgtNames tg ++ bnd tg ++ bnd v
    | .functionDef name (.mk po as va ko kd kw ds) body decos _ =>
        name :: (Arguments.paramNames (.mk po as va ko kd kw ds) ++ bndL ds ++ bndOL kd ++ bndL decos ++ srcB body)
    | .return_ v => bndO v
    | .global_ _ => []
    | .nonlocal_ _ => []
    | .classDef name bases kws body decos _ => name :: (bndL bases ++ bndK kws ++ bndL decos ++ srcB body)
    | .import_ names => names.map Alias.bound
    | .importFrom _ names _ => names.map fun a => a.asname.getD a.name
    | .other .. => []
  def srcB : List Stmt → List String
    | [] => []
    | s :: ss => srcS s ++ srcB ss
end


/-! ### assignment targets -/

theorem allOk_transf {U : List String} {n : Nsp} {b : List String} {e e' : Expr} (h : transf n b e = .ok e')
    (hu : bnd e ⊆ U) : AllOk U (bnd e') :=
  allOk_of_sub (fun _ hx => hu (transf_bnd n b e e' h hx))

theorem bnd_eltValue (tmp : String) (len index : Nat) (hs : Bool) (e : Expr) : bnd (eltValue tmp len index hs e) = [] := by
  unfold eltValue
  split
  · simp only [bnd, bndL, bndK, bndO, List.append_nil, List.nil_append]
    split <;> simp [bndO, bnd_intConstant]
  · simp [bnd, bnd_intConstant]

theorem allOk_unpackHead {U : List String} {tmp : String} {v : Expr} {rest : List Expr} (ht : Res tmp)
    (hv : AllOk U (bnd v)) (hr : AllOk U (bndL rest)) :
    AllOk U (bndL (unpackHead tmp v :: rest)) := by
  simp only [unpackHead, bndL, bnd, bndK, List.append_nil, List.nil_append]
  exact allOk_cons_res ht (allOk_append hv hr)

theorem AssignsElts.allOk {U : List String} {n : Nsp} {inP : Bool} {val : Nat → Bool → Expr → Expr} {index : Nat}
    {hs : Bool} {ts : List Expr} {st st' : St} {es : List Expr} (h : AssignsElts n inP val index hs ts st es st')
    (hv : ∀ i s t, AllOk U (bnd (val i s t))) (ht : tgtNamesL ts ⊆ U) (hb : bndL ts ⊆ U) : AllOk U (bndL es) := by
  induction h using AssignsElts.rec
    (motive_1 := fun _ t v _ es _ _ => tgtNames t ⊆ U → bnd t ⊆ U → AllOk U (bnd v) → AllOk U (bndL es)) with
  | name hr ht _ hv =>
      simp only [bndL, List.append_nil]
      exact allOk_sub (getAssign_bnd hr) (allOk_cons_mem (ht (by simp [tgtNames])) hv)
  | «attribute» ho _ hb hv =>
      simp only [bndL, bnd, bndK, bnd_str, List.append_nil, List.nil_append]
      exact allOk_append (allOk_transf ho (by simpa [bnd] using hb)) hv
  | subscript ho hs _ hb hv =>
      simp only [bnd, List.append_subset] at hb
      simp only [bndL, bnd, bndK, bnd_convertIndex, List.append_nil]
      exact allOk_append (allOk_transf ho hb.1) (allOk_append (allOk_transf hs hb.2) hv)
  | tuple _ ih ht hb hv | list _ ih ht hb hv =>
      exact allOk_unpackHead (res_fresh _ _) hv (ih (fun _ _ _ => by rw [bnd_eltValue]; exact allOk_nil U)
        (by simpa [tgtNames] using ht) (by simpa [bnd] using hb))
  | starred _ ih ht hb hv => exact ih (by simpa [tgtNames] using ht) (by simpa [bnd] using hb) hv
  | nil => exact allOk_nil U
  | cons _ _ _ iha ihb =>
      simp only [tgtNamesL, List.append_subset] at ht
      simp only [bndL, List.append_subset] at hb
      rw [bndL_append]
      exact allOk_append (iha ht.1 hb.1 (hv _ _ _)) (ihb hv ht.2 hb.2)

theorem Assigns.allOk {U : List String} {n : Nsp} {inP : Bool} {t v : Expr} {st st' : St} {es : List Expr}
    (h : Assigns n inP t v st es st') (ht : tgtNames t ⊆ U) (hb : bnd t ⊆ U) (hv : AllOk U (bnd v)) : AllOk U (bndL es) :=
  h.toElts.allOk (fun _ _ _ => hv) (by simpa only [tgtNamesL, List.append_nil] using ht)
    (by simpa only [bndL, List.append_nil] using hb)

theorem assignElts_bnd (U : List String) (n : Nsp) : ∀ (tmp : String) (len index : Nat) (hs : Bool) (ts : List Expr)
    (st : St) (es : List Expr) (st' : St), assignElts n tmp len index hs ts st = .ok (es, st') →
    tgtNamesL ts ⊆ U → bndL ts ⊆ U → AllOk U (bndL es) :=
  fun tmp len index hs ts st es st' h => (assignElts_graph n tmp len index hs ts st es st' h).allOk
    fun _ _ _ => by rw [bnd_eltValue]; exact allOk_nil U


/-! ### simple statements -/

theorem allOk_augSubT {U : List String} {tmp sl obj : String} {parent idx v : Expr} (op : BinOpK) (ht : Res tmp)
    (hs : Res sl) (ho : Res obj) (hp : AllOk U (bnd parent)) (hi : AllOk U (bnd idx)) (hv : AllOk U (bnd v)) :
    AllOk U (bndL (augSubT tmp sl obj parent idx op v)) := by
  simp only [augSubT, bndL, bnd, bndK, bnd_augAssignExpr, List.append_nil, List.nil_append]
  exact allOk_cons_res ho (allOk_append hp (allOk_cons_res hs (allOk_append hi (allOk_cons_res ht hv))))

theorem allOk_augAttrT {U : List String} {tmp obj : String} {parent v : Expr} (a : String) (op : BinOpK) (ht : Res tmp)
    (ho : Res obj) (hp : AllOk U (bnd parent)) (hv : AllOk U (bnd v)) :
    AllOk U (bndL (augAttrT tmp obj parent a op v)) := by
  simp only [augAttrT, bndL, bnd, bndK, bnd_str, bnd_augAssignExpr, List.append_nil, List.nil_append]
  exact allOk_cons_res ho (allOk_append hp (allOk_cons_res ht hv))

theorem AugAssigns.allOk {U : List String} {n : Nsp} {op : BinOpK} {v : Expr} {st st' : St} {tg : Expr} {es : List Expr}
    (h : AugAssigns n op v st tg es st') (ht : tgtNames tg ⊆ U) (hb : bnd tg ⊆ U) (hv : AllOk U (bnd v)) :
    AllOk U (bndL es) := by
  cases h with
  | name hl hr =>
    simp only [bndL, List.append_nil]
    refine allOk_sub (getAssign_bnd hr) (allOk_cons_mem (ht (by simp [tgtNames])) ?_)
    rw [bnd_augAssignExpr, getLoad_bnd hl]
    exact hv
  | subscript hp hi =>
    simp only [bnd, List.append_subset] at hb
    exact allOk_augSubT op (res_fresh _ _) (res_fresh _ _) (res_fresh _ _) (allOk_transf hp hb.1)
      (by rw [bnd_convertIndex]; exact allOk_transf hi hb.2) hv
  | «attribute» hp =>
    simp only [bnd] at hb
    exact allOk_augAttrT _ op (res_fresh _ _) (res_fresh _ _) (allOk_transf hp hb) hv

theorem importPlan_bound (a : Alias) : (importPlan a).1 = a.bound ∧ bnd (importPlan a).2 = [] := by
  unfold importPlan Alias.bound
  split <;> simp [bnd, bndL, bndK, bnd_str]

theorem Each.allOk {α : Type} {U : List String} {R : α → Expr → Prop} {as : List α} {es : List Expr} (h : Each R as es)
    (hR : ∀ a ∈ as, ∀ e, R a e → AllOk U (bnd e)) : AllOk U (bndL es) := by
  induction h with
  | nil => exact allOk_nil U
  | cons hr _ ih =>
    exact allOk_append (hR _ List.mem_cons_self _ hr) (ih fun a ha => hR a (List.mem_cons_of_mem _ ha))

theorem bndL_map_str {α : Type} (f : α → String) : ∀ (l : List α), bndL (l.map fun a => Expr.str (f a)) = []
  | [] => rfl
  | a :: l => by simp [bndL, bnd_str, bndL_map_str f l]

theorem bnd_importFromHead (tmp : String) (m : Option String) (names : List Alias) (level : Nat) :
    bnd (importFromHead tmp m names level) = [tmp] := by
  simp [importFromHead, bnd, bndL, bndK, bnd_str, bndL_map_str (fun a : Alias => a.name) names]

theorem bnd_decorate (f : Expr) : ∀ (ds : List Expr), bnd (decorate ds f) = bndL ds ++ bnd f
  | [] => rfl
  | d :: ds => by
      show bnd (.call d [decorate ds f] []) = _
      simp [bnd, bndL, bndK, bnd_decorate f ds]

theorem allOk_decorate {U : List String} {n : Nsp} {ds ds' : List Expr} {f : Expr} (hds : transfList n [] ds = .ok ds')
    (hd : bndL ds ⊆ U) (hf : AllOk U (bnd f)) : AllOk U (bnd (decorate ds' f)) := by
  rw [bnd_decorate]
  exact allOk_append (allOk_of_sub fun x hx => hd (transfList_bnd n [] ds ds' hds hx)) hf

theorem allOk_getD {U : List String} {m : Option Expr} {d : Expr} (hm : AllOk U (bndO m)) (hd : AllOk U (bnd d)) :
    AllOk U (bnd (m.getD d)) := by
  cases m with
  | none => exact hd
  | some e => exact hm

theorem ClassKws.allOk {U : List String} {n : Nsp} {ks rest : List Keyword} {m : Option Expr} (h : ClassKws n ks m rest)
    (hk : bndK ks ⊆ U) : AllOk U (bndO m) ∧ AllOk U (bndK rest) := by
  induction h with
  | nil => exact ⟨allOk_nil U, allOk_nil U⟩
  | metaclass _ hv ih =>
      simp only [bndK, List.append_subset] at hk
      exact ⟨allOk_getD (ih hk.2).1 (allOk_transf hv hk.1), (ih hk.2).2⟩
  | other _ hv _ ih =>
      simp only [bndK, List.append_subset] at hk
      exact ⟨(ih hk.2).1, allOk_append (allOk_transf hv hk.1) (ih hk.2).2⟩


/-! ### the statement templates -/

theorem allOk_bndL_ite (c : Prop) [Decidable c] {U : List String} {a b : List Expr} (ha : AllOk U (bndL a))
    (hb : AllOk U (bndL b)) : AllOk U (bndL (if c then a else b)) := by split <;> assumption

theorem allOk_bnd_ite (c : Prop) [Decidable c] {U : List String} {a b : Expr} (ha : AllOk U (bnd a))
    (hb : AllOk U (bnd b)) : AllOk U (bnd (if c then a else b)) := by split <;> assumption

theorem allOk_opt (c : Prop) [Decidable c] {U : List String} {e : Expr} (h : AllOk U (bnd e)) :
    AllOk U (bndL (if c then [e] else [])) :=
  allOk_bndL_ite _ (by simpa only [bndL, List.append_nil] using h) (allOk_nil U)

theorem allOk_opt' (c : Prop) [Decidable c] {U : List String} {e : Expr} (h : AllOk U (bnd e)) :
    AllOk U (bndL (if c then [] else [e])) :=
  allOk_bndL_ite _ (allOk_nil U) (by simpa only [bndL, List.append_nil] using h)

theorem allOk_setFlag {U : List String} {x : String} (v : Bool) (h : Res x) : AllOk U (bnd (setFlag x v)) := by
  rw [bnd_setFlag]; exact allOk_cons_res h (allOk_nil U)

theorem allOk_guardE {U : List String} (cfg : Cfg) {flag : Expr} {rest : List Expr} (hf : AllOk U (bnd flag))
    (h : AllOk U (bndL rest)) : AllOk U (bnd (guardE cfg flag rest)) := by
  simp only [guardE, bnd, Expr.not_, Expr.ellipsis, List.append_nil]
  exact allOk_append hf (allOk_wrapExprs U cfg h)

theorem allOk_brkSet (U : List String) (l : LoopCtx) (h : Res l.flag) : AllOk U (bnd l.brkSet) := by
  unfold LoopCtx.brkSet
  split
  · exact allOk_setFlag _ h
  · simp [bnd, bndL, bndK, bnd_str, Expr.true_]; exact allOk_nil U

theorem allOk_map {α : Type} {U : List String} (f : α → Expr) : ∀ (l : List α), (∀ a ∈ l, AllOk U (bnd (f a))) →
    AllOk U (bndL (l.map f))
  | [], _ => allOk_nil U
  | a :: l, h => allOk_append (h a List.mem_cons_self) (allOk_map f l fun x hx => h x (List.mem_cons_of_mem _ hx))

theorem allOk_breakT {U : List String} {l : LoopCtx} (h : Res l.flag ∧ Res l.intr) : AllOk U (bndL (breakT l)) := by
  simp only [breakT, bndL, bnd, List.append_nil]
  rw [bndL_append]
  exact allOk_append (by simpa only [bndL, List.append_nil] using allOk_brkSet U l h.1) (allOk_opt _ (allOk_setFlag _ h.2))

theorem allOk_continueT {U : List String} {l : LoopCtx} (h : Res l.flag ∧ Res l.intr) : AllOk U (bndL (continueT l)) := by
  simp only [continueT, bndL, bnd, List.append_nil]
  exact allOk_opt _ (allOk_setFlag _ h.2)

theorem allOk_returnT {U : List String} {cx : Ctx} {v : Option Expr} (hl : ∀ l ∈ cx.loops, Res l.flag ∧ Res l.intr) (hn : NspOK cx.nsp)
    (hv : AllOk U (bndO v)) : AllOk U (bndL (returnT cx v)) := by
  simp only [returnT, bndL, bnd, List.append_nil]
  rw [bndL_append, bndL_append, bndL_append]
  refine allOk_append (allOk_append (allOk_append ?_ (allOk_map _ _ fun l h => allOk_brkSet U l (hl l h).1))
    (allOk_map _ _ fun l h => allOk_setFlag _ (hl l (List.mem_reverse.mp (List.mem_filter.mp h).1)).2))
    (allOk_opt _ (allOk_setFlag _ hn.2.1))
  cases v with
  | none => exact allOk_nil U
  | some e => simp only [bndL, bnd, List.append_nil]; exact allOk_cons_res hn.1 hv

theorem allOk_ifT {U : List String} (cfg : Cfg) {t : Expr} {b o : List Expr} (ht : AllOk U (bnd t))
    (hb : AllOk U (bndL b)) (ho : AllOk U (bndL o)) : AllOk U (bndL (ifT cfg t b o)) := by
  have hbw := allOk_wrapExprs U cfg hb
  have how := allOk_wrapExprs U cfg ho
  unfold ifT
  split
  · split
    · simp only [bndL, bnd, List.append_nil]; exact allOk_append ht hbw
    · simp only [bndL, bnd, List.append_nil]; exact allOk_append (allOk_append ht hbw) how
  · simp only [bndL, bnd, List.append_nil]; exact allOk_append (allOk_append ht hbw) how

theorem allOk_loopBody {U : List String} {l : LoopCtx} {b : List Expr} (hl : Res l.intr) (hb : AllOk U (bndL b)) :
    AllOk U (bndL (loopBody l b)) := by
  unfold loopBody; rw [bndL_append]; exact allOk_append (allOk_opt _ (allOk_setFlag _ hl)) hb

theorem allOk_elseT {U : List String} (cfg : Cfg) (hasBreak : Bool) {broke : Expr} {o : List Expr}
    (hf : AllOk U (bnd broke)) (ho : AllOk U (bndL o)) : AllOk U (bndL (elseT cfg hasBreak broke o)) :=
  allOk_opt' _ (allOk_bnd_ite _ (allOk_guardE cfg hf ho) (allOk_wrapExprs U cfg ho))

theorem bnd_takewhileIter (t : Expr) : bnd (takewhileIter t) = whileCounter :: bnd t := by
  simp [takewhileIter, bnd, bndL, bndK, bndOL, Arguments.simple, Arguments.paramNames]

theorem res_whileCounter : Res whileCounter := Or.inl (by decide +kernel)
theorem res_classKey : Res classKey := Or.inl (by decide +kernel)
theorem res_classValue : Res classValue := Or.inl (by decide +kernel)
theorem res_hookFn : Res hookFn := Or.inl (by decide +kernel)

theorem allOk_listComp1 {U : List String} {elt it : Expr} {x : String} (he : AllOk U (bnd elt)) (hx : Res x)
    (hi : AllOk U (bnd it)) : AllOk U (bnd (.listComp elt [.mk (.name x) it [] false])) := by
  simp only [bnd, bndG, tgtNames, bndL, List.append_nil]
  exact allOk_append he (allOk_cons_res hx hi)

theorem allOk_whileT {U : List String} (cfg : Cfg) {l : LoopCtx} (hasBreak : Bool) {t : Expr} {b o : List Expr}
    (hl : Res l.flag ∧ Res l.intr) (ht : AllOk U (bnd t)) (hb : AllOk U (bndL b)) (ho : AllOk U (bndL o)) :
    AllOk U (bndL (whileT cfg l hasBreak t b o)) := by
  unfold whileT
  rw [bndL_append, bndL_append]
  refine allOk_append (allOk_append (allOk_opt _ (allOk_setFlag _ hl.1)) ?_) (allOk_elseT _ _ (allOk_nil U) ho)
  simp only [bndL, List.append_nil]
  refine allOk_listComp1 (allOk_wrapExprs U cfg (allOk_loopBody hl.2 hb)) res_whileCounter ?_
  rw [bnd_takewhileIter]
  refine allOk_cons_res res_whileCounter (allOk_bnd_ite _ ?_ ht)
  simpa only [bnd, bndL, Expr.not_, List.nil_append, List.append_nil] using ht

theorem allOk_forT {U : List String} (cfg : Cfg) {l : LoopCtx} (plain hasBreak : Bool) {item : String} {itr : Expr}
    {asg b o : List Expr} (hl : Res l.flag ∧ Res l.intr) (hit : Res item) (hi : AllOk U (bnd itr))
    (ha : AllOk U (bndL asg)) (hb : AllOk U (bndL b)) (ho : AllOk U (bndL o)) :
    AllOk U (bndL (forT cfg l plain hasBreak item itr asg b o)) := by
  have hab : AllOk U (bndL (asg ++ b)) := by rw [bndL_append]; exact allOk_append ha hb
  unfold forT
  split
  · simp only [bndL, List.append_nil]
    exact allOk_listComp1 (allOk_wrapExprs U cfg hab) hit hi
  · rw [bndL_append, bndL_append]
    refine allOk_append (allOk_append (allOk_opt _ ?_) ?_) (allOk_elseT _ _ (allOk_nil U) ho)
    · simp only [bnd, bndL, bndK, List.append_nil, List.nil_append]; exact allOk_cons_res hl.1 hi
    · simp only [bndL, List.append_nil]
      exact allOk_listComp1 (allOk_wrapExprs U cfg (allOk_loopBody hl.2 hab)) hit (allOk_bnd_ite _ (allOk_nil U) hi)

theorem bndD_params : ∀ (ps : List String), bndD (ps.map fun p => DictItem.mk (some (Expr.str p)) (.name p)) = []
  | [] => rfl
  | p :: ps => by simp [bndD, bnd_str, bnd, bndD_params ps]

theorem allOk_defLambda {U : List String} (cfg : Cfg) {inner : Nsp} (fnUsed : Bool) {po as : List String}
    {va : Option String} {ko : List String} {kd : List (Option Expr)} {kw : Option String} {ds b : List Expr}
    (hn : NspOK inner) (hp : Arguments.paramNames (.mk po as va ko kd kw ds) ⊆ U) (hd : AllOk U (bndL ds))
    (hk : AllOk U (bndOL kd)) (hb : AllOk U (bndL b)) :
    AllOk U (bnd (defLambda cfg inner fnUsed (.mk po as va ko kd kw ds) b)) := by
  simp only [defLambda, bnd, List.append_nil, Expr.neg1, listWrapper]
  refine allOk_append (allOk_append (allOk_append (allOk_of_sub hp) hd) hk) ?_
  rw [bndL_append, bndL_append]
  refine allOk_append (allOk_append ?_ ?_) (by simp [bndL, bnd]; exact allOk_nil _)
  · rw [bndL_append, bndL_append, bndL_append]
    refine allOk_append (allOk_append (allOk_append ?_ (allOk_opt _ (allOk_nil U))) (allOk_opt _ (allOk_setFlag _ hn.2.1)))
      (allOk_opt' _ ?_)
    · simp only [bndL, bnd, bnd_none, List.append_nil]; exact allOk_cons_res hn.1 (allOk_nil _)
    · simp only [bnd, bndD_params]; exact allOk_cons_res hn.2.2 (allOk_nil _)
  · cases cfg.wrapper with
    | list => exact hb
    | chainCall => simp only [bndL, List.append_nil]; exact allOk_wrapExprs _ _ hb

theorem bnd_hookWrap (f : Expr) : bnd (hookWrap f) = hookFn :: bnd f := by
  simp [hookWrap, bnd, bndL, bndK, bndOL, Arguments.simple, Arguments.empty, Arguments.paramNames]

theorem allOk_hookIf {U : List String} (inner : Nsp) (name : String) {lam : Expr} (h : AllOk U (bnd lam)) :
    AllOk U (bnd (hookIf inner name lam)) :=
  allOk_bnd_ite _ (by rw [bnd_hookWrap]; exact allOk_cons_res res_hookFn h) h

theorem allOk_classLoad {U : List String} {inner : Nsp} {loader : String} {self : Expr} {b : List Expr}
    (hn : NspOK inner) (hl : Res loader) (hs : bnd self = []) (hb : AllOk U (bndL b)) :
    AllOk U (bnd (classLoad inner loader self b)) := by
  simp only [classLoad, bnd, Arguments.empty, Arguments.paramNames, bndL, bndOL, Expr.neg1, List.append_nil, List.nil_append]
  refine allOk_cons_res hl ?_
  rw [bndL_append, bndL_append]
  simp only [bndL, bnd, bndD, hs, List.append_nil, List.nil_append, List.cons_append]
  exact allOk_cons_res (Or.inr (by decide)) (allOk_cons_res hn.2.2 hb)

theorem allOk_classFill {U : List String} (loader : String) {self : Expr} (hs : bnd self = []) :
    AllOk U (bnd (classFill loader self)) := by
  simp only [classFill, bnd, bndL, bndK, bndG, tgtNames, tgtNamesL, hs, List.append_nil, List.nil_append]
  exact allOk_cons_res res_classKey (allOk_cons_res res_classValue (allOk_nil _))

theorem allOk_classCreate {U : List String} (name : String) {metaE : Option Expr} {bases : List Expr} {kws : List Keyword}
    (hm : AllOk U (bndO metaE)) (hb : AllOk U (bndL bases)) (hk : AllOk U (bndK kws)) :
    AllOk U (bnd (classCreate name metaE bases kws)) := by
  simp only [classCreate, bnd, bndL, bndD, bnd_str, List.append_nil, List.nil_append]
  exact allOk_append (allOk_append (allOk_getD hm (allOk_nil U)) hb) hk

theorem Redecorated.allOk {U : List String} {n : Nsp} {name : String} {self : Expr} {ds tail : List Expr}
    (h : Redecorated n name self ds tail) (hn : name ∈ U) (hs : bnd self = []) (hd : bndL ds ⊆ U) :
    AllOk U (bndL tail) := by
  cases h with
  | none => exact allOk_nil U
  | some hds hr _ =>
    simp only [bndL, List.append_nil]
    exact allOk_sub (getAssign_bnd hr) (allOk_cons_mem hn (allOk_decorate hds hd (by rw [hs]; exact allOk_nil U)))

theorem ctxOK_push {cx : Ctx} (hc : CtxOK cx) {l : LoopCtx} (h : Res l.flag ∧ Res l.intr) : CtxOK (cx.push l) := by
  refine ⟨hc.1, hc.2.1, ?_⟩
  intro l' hl
  rcases List.mem_append.mp hl with h' | h'
  · exact hc.2.2 l' h'
  · cases List.mem_singleton.mp h'; exact h

theorem res_newLoop (w : Bool) (st : St) (b : List Stmt) : Res (newLoop w st b).1.flag ∧ Res (newLoop w st b).1.intr :=
  ⟨res_fresh _ _, res_fresh _ _⟩


/-! ### statements and blocks -/

theorem LowersB.allOk {U : List String} {cx : Ctx} {ss : List Stmt} {st st' : St} {es : List Expr}
    (h : LowersB cx ss st es st') (hU : srcB ss ⊆ U) (hc : CtxOK cx) : AllOk U (bndL es) := by
  induction h using LowersB.rec (motive_1 := fun cx s _ es _ _ => srcS s ⊆ U → CtxOK cx → AllOk U (bndL es)) with
  | expr hv hU _ =>
      simp only [bndL, List.append_nil]
      exact allOk_transf hv hU
  | pass_ => simp [bndL, bnd, Expr.ellipsis]; exact allOk_nil _
  | global_ | nonlocal_ | annAssign_ | nil => exact allOk_nil U
  | break_ hl _ hc => exact allOk_breakT (hc.2.2 _ (List.mem_of_getLast? hl))
  | continue_ hl _ hc => exact allOk_continueT (hc.2.2 _ (List.mem_of_getLast? hl))
  | return_ hv hk hU hc =>
      refine allOk_returnT hc.2.2 (hc.2.1 ?_) (allOk_of_sub fun x hx => hU (transfOpt_bnd _ [] _ _ hv hx))
      simpa using hk
  | if_ _ _ ht ihb iho hU hc =>
      simp only [srcS, List.append_subset] at hU
      exact allOk_ifT _ (allOk_transf ht hU.1.1) (ihb hU.1.2 hc) (iho hU.2 hc)
  | while_ _ _ ht ihb iho hU hc =>
      simp only [srcS, List.append_subset] at hU
      exact allOk_whileT _ _ (res_newLoop ..) (allOk_transf ht hU.1.1) (ihb hU.1.2 (ctxOK_push hc (res_newLoop ..)))
        (iho hU.2 hc)
  | for_ _ _ ha hi ihb iho hU hc =>
      simp only [srcS, List.append_subset] at hU
      obtain ⟨⟨⟨⟨hT, hB⟩, hI⟩, hb⟩, ho⟩ := hU
      exact allOk_forT _ _ _ (res_newLoop ..) (res_fresh _ _) (allOk_transf hi hI) (ha.allOk hT hB (allOk_nil U))
        (ihb hb (ctxOK_push hc (res_newLoop ..))) (iho ho hc)
  | assignTmp hr hv _ hU _ =>
      simp only [srcS, List.append_subset] at hU
      simp only [bndL, bnd]
      exact allOk_cons_res (res_fresh _ _) (allOk_append (allOk_transf hv hU.2)
        (hr.allOk (fun _ _ _ => allOk_nil U) hU.1.1 hU.1.2))
  | assign hr hv _ hU _ =>
      simp only [srcS, List.append_subset] at hU
      exact hr.allOk (fun _ _ _ => allOk_transf hv hU.2) hU.1.1 hU.1.2
  | annAssign _ ih hU hc => exact ih (by simpa [srcS, tgtNamesL, bndL, bndO] using hU) hc
  | augAssign ha hv hU _ =>
      simp only [srcS, List.append_subset] at hU
      exact ha.allOk hU.1.1 hU.1.2 (allOk_transf hv hU.2)
  | import_ h hU _ =>
      refine h.allOk fun a ha e he => ?_
      rw [(importPlan_bound a).1] at he
      refine allOk_sub (getAssign_bnd he) (allOk_cons_mem (hU (List.mem_map_of_mem ha)) ?_)
      rw [(importPlan_bound a).2]; exact allOk_nil U
  | importFrom h hU _ =>
      simp only [bndL, bnd_importFromHead, List.singleton_append]
      exact allOk_cons_res (res_fresh _ _) (h.allOk fun a ha e he =>
        allOk_sub (getAssign_bnd he.2) (allOk_cons_mem (hU (List.mem_map_of_mem ha)) (allOk_nil U)))
  | functionDef _ hds hkd hdec hin he ihb hU hc =>
      simp only [srcS, List.cons_subset, List.append_subset] at hU
      obtain ⟨hname, ⟨⟨⟨hP, hD⟩, hK⟩, hDec⟩, hBody⟩ := hU
      have hio := findChild_ok hin hc.1
      simp only [bndL, List.append_nil]
      exact allOk_sub (getAssign_bnd he) (allOk_cons_mem hname (allOk_hookIf _ _
        (allOk_decorate hdec hDec (allOk_defLambda _ _ hio.1 hP
          (allOk_of_sub fun x hx => hD (transfList_bnd _ [] _ _ hds hx))
          (allOk_of_sub fun x hx => hK (transfOptList_bnd _ [] _ _ hkd hx))
          (ihb hBody ⟨hio.2, fun _ => hio.1, fun l hl => nomatch hl⟩)))))
  | classDef _ hk hd hbs hin hcr hs ihb hU hc =>
      simp only [srcS, List.cons_subset, List.append_subset] at hU
      obtain ⟨hname, ⟨⟨hBa, hKw⟩, hDec⟩, hBody⟩ := hU
      have hio := findChild_ok hin hc.1
      have hik := findChild_kind hin
      have hck := hk.allOk hKw
      simp only [List.cons_append, List.nil_append, bndL]
      exact allOk_append (allOk_sub (getAssign_bnd hcr) (allOk_cons_mem hname (allOk_classCreate _ hck.1
          (allOk_of_sub fun x hx => hBa (transfList_bnd _ [] _ _ hbs hx)) hck.2)))
        (allOk_append (allOk_classLoad hio.1 (res_fresh _ _) (getLoad_bnd hs)
            (ihb hBody ⟨hio.2, fun hf => (by rw [hik] at hf; cases hf), fun l hl => nomatch hl⟩))
          (allOk_append (allOk_classFill _ (getLoad_bnd hs)) (hd.allOk hname (getLoad_bnd hs) hDec)))
  | last _ _ ih => exact ih (List.append_subset.mp hU).1 hc
  | guard _ _ _ _ ih ihr =>
      simp only [srcB, List.append_subset] at hU
      rw [bndL_append]
      refine allOk_append (ih hU.1 hc) ?_
      simp only [bndL, List.append_nil]
      exact allOk_guardE _ (allOk_nil U) (ihr hU.2 hc)
  | seq _ _ _ _ ih ihr =>
      simp only [srcB, List.append_subset] at hU
      rw [bndL_append]
      exact allOk_append (ih hU.1 hc) (ihr hU.2 hc)

theorem lowerBlock_bnd : ∀ (ss : List Stmt) (cx : Ctx) (st : St) (es : List Expr) (st' : St),
      lowerBlock cx ss st = .ok (es, st') → CtxOK cx → AllOk (srcB ss) (bndL es) :=
  fun ss cx st es st' h => (lowerBlock_graph ss cx st es st' h).allOk fun _ h => h


/-! ### the whole program -/

theorem allOk_prelude {U : List String} (st : St) {b : List Expr} (hb : AllOk U (bndL b)) : AllOk U (bndL (prelude st b)) := by
  have himp : ∀ (m : String) {b : List Expr}, m ∈ auditedBinders → AllOk U (bndL b) → AllOk U (bndL (importHelper m :: b)) := by
    intro m b hm hb
    simp only [importHelper, bndL, bnd, bndK, bnd_str, List.append_nil]
    exact allOk_cons_res (Or.inr hm) hb
  unfold prelude
  have h1 := allOk_bndL_ite (st.useItertools = true) (himp "itertools" (by decide) hb) hb
  have h2 := allOk_bndL_ite (st.useImportlib = true) (himp "importlib" (by decide) h1) h1
  exact allOk_bndL_ite _ (by simp only [bndL]; exact allOk_append (allOk_iterWrapperBody _) h2) h2

/-- **Every name the converted program binds is a binder of the script or a helper name.** -/
theorem lowerFull_bnd (cfg : Cfg) (root : SymScope) (body : List Stmt) (e : Expr)
    (h : lowerFull cfg root body = .ok e) : AllOk (srcB body) (bnd e) := by
  obtain ⟨g, sup, b, st, hg, hb, rfl⟩ := lowerFull_graph h
  have hk : g.kind = .module := generateNsp_kind hg
  exact allOk_wrapExprs _ cfg (allOk_prelude st
    (hb.allOk (fun _ h => h) ⟨generateNsp_ok hg, fun hf => (by rw [hk] at hf; cases hf), fun l hl => (by cases hl)⟩))

end OlVerif
