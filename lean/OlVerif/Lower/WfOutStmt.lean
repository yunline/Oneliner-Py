/-
  Well-formedness of the conversion's output, part 2: statements, wrappers, the whole program.
-/
import OlVerif.Lower.WfOut
import OlVerif.Lower.Lowers


namespace OlVerif

/-! ### source programs whose expressions are well-formed -/

mutual
  def wfS : Stmt → Prop
    | .expr v => wfE v
    | .if_ t b e => wfE t ∧ wfBlock b ∧ wfBlock e
    | .while_ t b e => wfE t ∧ wfBlock b ∧ wfBlock e
    | .for_ tg it b e => wfE tg ∧ wfE it ∧ wfBlock b ∧ wfBlock e
    | .break_ => True
    | .continue_ => True
    | .pass_ => True
    | .global_ _ => True
    | .nonlocal_ _ => True
    | .import_ _ => True
    | .importFrom .. => True
    | .assign ts v => wfL ts ∧ wfE v
    | .annAssign tg _ v => wfE tg ∧ wfO v
    | .augAssign tg _ v => wfE tg ∧ wfE v
    | .functionDef _ args body decos _ => wfA args ∧ wfBlock body ∧ wfL decos
    | .return_ v => wfO v
    | .classDef _ bases kws body decos _ => wfElts bases ∧ wfKws kws ∧ wfBlock body ∧ wfL decos
    | .other .. => True
  def wfBlock : List Stmt → Prop
    | [] => True
    | s :: ss => wfS s ∧ wfBlock ss
end

/-! ### templates -/

theorem wfE_intConstant (v : Int) : wfE (intConstant v) := by
  unfold intConstant
  split <;> (simp only [wfE, wfC]; omega)

theorem intConstant_not_tuple (v : Int) : ∀ es, intConstant v ≠ .tuple es := by
  intro es h; unfold intConstant at h; split at h <;> cases h

theorem wfE_getD {o : Option Expr} {d : Expr} (h : wfO o) (hd : wfE d) : wfE (o.getD d) := by
  cases o with
  | none => exact hd
  | some e => simp only [wfO] at h; exact h

theorem wfE_convertSlice {a b c : Option Expr} (ha : wfO a) (hb : wfO b) (hc : wfO c) : wfE (convertSlice a b c) :=
  wfE_call (wfE_name _) (wfL_cons (wfE_getD ha wfE_none) (wfL_cons (wfE_getD hb wfE_none) (wfL_cons (wfE_getD hc wfE_none) wfL_nil)))

/-- the function `convertIndex` maps over the elements of a tuple index, named so that lemmas about the map can be stated -/
def cvElt (e : Expr) : Expr := match e with | .slice a b c => convertSlice a b c | e => e

theorem wfElts_map_cv_of_sliceElts : ∀ (es : List Expr), wfSliceElts es → wfElts (es.map cvElt)
  | [], _ => wfElts_nil
  | e :: es, h => by
      cases e with
      | slice a b c =>
        simp only [wfSliceElts] at h
        exact wfElts_cons (wfE_convertSlice h.1 h.2.1 h.2.2.1) (wfElts_map_cv_of_sliceElts es h.2.2.2)
      | starred v =>
        simp only [wfSliceElts] at h
        simp only [List.map, cvElt, wfElts]
        exact ⟨h.1, wfElts_map_cv_of_sliceElts es h.2⟩
      | _ =>
        simp only [wfSliceElts] at h
        exact wfElts_cons h.1 (wfElts_map_cv_of_sliceElts es h.2)

theorem wfElts_map_cv_of_elts : ∀ (es : List Expr), wfElts es → wfElts (es.map cvElt)
  | [], _ => wfElts_nil
  | e :: es, h => by
      cases e with
      | slice a b c => simp [wfElts, wfE] at h
      | starred v =>
        simp only [wfElts] at h
        simp only [List.map, cvElt, wfElts]
        exact ⟨h.1, wfElts_map_cv_of_elts es h.2⟩
      | _ =>
        simp only [wfElts] at h
        exact wfElts_cons h.1 (wfElts_map_cv_of_elts es h.2)

theorem wfE_convertIndex {s : Expr} (h : wfSlice s) : wfE (convertIndex s) := by
  cases s with
  | slice a b c =>
    simp only [wfSlice] at h
    exact wfE_convertSlice h.1 h.2.1 h.2.2
  | tuple es =>
    simp only [wfSlice] at h
    simp only [convertIndex, wfE]
    split at h
    · exact wfElts_map_cv_of_sliceElts es h
    · exact wfElts_map_cv_of_elts es h
  | starred _ => simp [wfSlice] at h
  | _ => simp only [wfSlice] at h; simpa only [convertIndex] using h

theorem transf_wfSlice {n : Nsp} {b : List String} {v v' s s' : Expr} (hv : transf n b v = .ok v')
    (hs : transf n b s = .ok s') (hw : wfE (.subscript v s)) : wfE v' ∧ wfSlice s' := by
  simp only [wfE] at hw
  exact ⟨transf_wf n b v v' hv hw.1, ((transf_wf_cases n).expr hs).index hw.2⟩

theorem wfE_setFlag (x : String) (v : Bool) : wfE (setFlag x v) := by
  unfold setFlag
  split
  · exact wfE_namedExpr _ wfE_true
  · exact wfE_namedExpr _ wfE_false

theorem wfA_simple (names : List String) : wfA (Arguments.simple names) := by
  simp [Arguments.simple, wfA, wfL, wfOL]
theorem wfA_empty : wfA Arguments.empty := wfA_simple []

theorem wfE_lambda {as : Arguments} {b : Expr} (ha : wfA as) (hb : wfE b) : wfE (.lambda as b) := by
  simp only [wfE]; exact ⟨ha, hb⟩

theorem wfE_augAssignExpr {t v : Expr} (op : BinOpK) (ht : wfE t) (hv : wfE v) : wfE (augAssignExpr t op v) :=
  wfE_call (wfE_attribute _ (wfE_call (wfE_name _) (wfL_cons (wfE_str _) wfL_nil))) (wfL_cons ht (wfL_cons hv wfL_nil))

theorem wfE_compare1 {a b : Expr} (op : CmpOpK) (ha : wfE a) (hb : wfE b) : wfE (.compare a [op] [b]) := by
  simp only [wfE, wfL]
  exact ⟨ha, rfl, by simp, hb, trivial⟩

theorem wfE_hookWrap {f : Expr} (h : wfE f) : wfE (hookWrap f) :=
  wfE_call (wfE_lambda (wfA_simple _) (wfE_ifExp
      (wfE_compare1 _ (wfE_call (wfE_name _) (wfL_cons (wfE_name _) wfL_nil))
        (wfE_call (wfE_name _) (wfL_cons (wfE_lambda wfA_empty (wfE_nat 0)) wfL_nil)))
      (wfE_call (wfE_name _) (wfL_cons (wfE_name _) wfL_nil)) (wfE_name _)))
    (wfL_cons h wfL_nil)

theorem wfE_chainRunner : wfE chainRunner :=
  wfE_call (wfE_lambda wfA_empty (wfE_namedExpr _ (wfE_lambda (wfA_simple _) (wfE_name _)))) wfL_nil

theorem wfE_foldl_call : ∀ (es : List Expr) (acc : Expr), wfE acc → wfL es →
    wfE (es.foldl (fun acc x => .call acc [x] []) acc)
  | [], acc, ha, _ => ha
  | e :: es, acc, ha, h => by
      simp only [wfL] at h
      exact wfE_foldl_call es _ (wfE_call ha (wfL_cons h.1 wfL_nil)) h.2

theorem wfE_wrapExprs (cfg : Cfg) {es : List Expr} (h : wfL es) : wfE (wrapExprs cfg es) := by
  match es, h with
  | [], _ => exact wfE_ellipsis
  | [e], h => simp only [wfL] at h; exact h.1
  | e1 :: e2 :: es, h =>
    simp only [wrapExprs]
    split
    · exact wfE_list h
    · simp only [wfL] at h
      simp only [chainCallWrapper]
      exact wfE_foldl_call _ _ (wfE_call wfE_chainRunner (wfL_cons h.1 wfL_nil)) (wfL_cons h.2.1 h.2.2)

theorem wfE_iterWrapperBody : wfE iterWrapperBody := by
  simp [iterWrapperBody, iterWrapperName, wfE, wfElts, wfKws, wfItems, wfSlice, wfA, wfL, wfOL, wfC,
    Arguments.simple, Expr.str, Expr.neg1, Expr.none_, Expr.false_]

theorem wfE_takewhileIter {t : Expr} (h : wfE t) : wfE (takewhileIter t) :=
  wfE_call (wfE_attribute _ (wfE_name _))
    (wfL_cons (wfE_lambda (wfA_simple _) h) (wfL_cons (wfE_call (wfE_attribute _ (wfE_name _)) wfL_nil) wfL_nil))

theorem wfE_brkSet (l : LoopCtx) : wfE l.brkSet := by
  unfold LoopCtx.brkSet
  split
  · exact wfE_setFlag _ _
  · exact wfE_call (wfE_name _) (wfL_cons (wfE_name _) (wfL_cons (wfE_str _) (wfL_cons wfE_true wfL_nil)))

theorem wfE_listCompG {elt t it : Expr} (he : wfE elt) (hk : targetKind t = true) (ht : wfE t) (hi : wfE it) :
    wfE (.listComp elt [.mk t it [] false]) := by
  simp only [wfE, wfG, wfL]
  exact ⟨he, by simp, hk, ht, hi, trivial, trivial⟩

theorem wfE_listComp1 {elt : Expr} (x : String) {it : Expr} (he : wfE elt) (hi : wfE it) :
    wfE (.listComp elt [.mk (.name x) it [] false]) :=
  wfE_listCompG he rfl (wfE_name x) hi


/-! ### assignment targets -/

theorem wfElts_head {e : Expr} {es : List Expr} (h : wfElts (e :: es)) : wfElts [e] ∧ wfElts es := by
  cases e <;> (simp only [wfElts] at h ⊢; exact ⟨⟨h.1, trivial⟩, h.2⟩)

theorem wfElts_single {e : Expr} (h : wfE e) : wfElts [e] := wfElts_cons h wfElts_nil

theorem wfE_of_wfElts_single {e : Expr} (h : wfElts [e]) (hn : ∀ v, e ≠ .starred v) : wfE e := by
  cases e <;> first | (exact absurd rfl (hn _)) | (simp only [wfElts] at h; exact h.1)

theorem wfE_eltValue (tmp : String) (len index : Nat) (hs : Bool) (e : Expr) : wfE (eltValue tmp len index hs e) := by
  unfold eltValue
  split
  · refine wfE_call (wfE_name _) (wfL_cons ?_ wfL_nil)
    have hup : wfO (if (index : Int) - (len : Int) + 1 = 0 then none else some (intConstant ((index : Int) - (len : Int) + 1))) := by
      split
      · simp only [wfO]
      · simp only [wfO]; exact wfE_intConstant _
    simp only [wfE, wfSlice]
    exact ⟨trivial, by simp only [wfO]; exact wfE_nat index, hup, by simp only [wfO]⟩
  · exact wfE_subscript (wfE_name _) (wfE_intConstant _) (intConstant_not_tuple _)

theorem wfE_unpackHead (tmp : String) {v : Expr} (hv : wfE v) : wfE (unpackHead tmp v) :=
  wfE_namedExpr _ (wfE_call (wfE_name _) (wfL_cons hv wfL_nil))

theorem AssignsElts.wf {n : Nsp} {inP : Bool} {val : Nat → Bool → Expr → Expr} {index : Nat} {hs : Bool}
    {ts : List Expr} {st st' : St} {es : List Expr} (h : AssignsElts n inP val index hs ts st es st')
    (hv : ∀ i s t, wfE (val i s t)) (ht : wfElts ts) : wfL es := by
  induction h using AssignsElts.rec (motive_1 := fun _ t v _ es _ _ => wfElts [t] → wfE v → wfL es) with
  | name hr _ hv => exact wfL_cons (getAssign_wf hr hv) wfL_nil
  | «attribute» ho ht hv =>
      have ht' := wfE_of_wfElts_single ht (by intro v h; cases h)
      simp only [wfE] at ht'
      exact wfL_cons (wfE_call (wfE_name _)
        (wfL_cons (transf_wf n [] _ _ ho ht') (wfL_cons (wfE_str _) (wfL_cons hv wfL_nil)))) wfL_nil
  | subscript ho hs ht hv =>
      have := transf_wfSlice ho hs (wfE_of_wfElts_single ht (by intro v h; cases h))
      exact wfL_cons (wfE_call (wfE_attribute _ this.1)
        (wfL_cons (wfE_convertIndex this.2) (wfL_cons hv wfL_nil))) wfL_nil
  | tuple _ ih ht hv | list _ ih ht hv =>
      have ht' := wfE_of_wfElts_single ht (by intro v h; cases h)
      simp only [wfE] at ht'
      exact wfL_cons (wfE_unpackHead _ hv) (ih (wfE_eltValue _ _) ht')
  | starred _ ih ht hv =>
      simp only [wfElts] at ht
      exact ih (wfElts_single ht.1) hv
  | nil => exact wfL_nil
  | cons _ _ _ iha ihb => exact wfL_append (iha (wfElts_head ht).1 (hv ..)) (ihb hv (wfElts_head ht).2)

theorem Assigns.wf {n : Nsp} {inP : Bool} {t v : Expr} {st st' : St} {es : List Expr} (h : Assigns n inP t v st es st')
    (ht : wfE t) (hv : wfE v) : wfL es :=
  h.toElts.wf (fun _ _ _ => hv) (wfElts_single ht)

theorem assignElts_wf (n : Nsp) : ∀ (tmp : String) (len index : Nat) (hs : Bool) (ts : List Expr) (st : St)
    (es : List Expr) (st' : St), assignElts n tmp len index hs ts st = .ok (es, st') → wfElts ts → wfL es :=
  fun tmp len index hs ts st es st' h => (assignElts_graph n tmp len index hs ts st es st' h).wf (wfE_eltValue tmp len)


/-! ### simple statements -/

theorem wfL_augSubT (tmp sl obj : String) {parent idx v : Expr} (op : BinOpK) (hp : wfE parent) (hi : wfE idx)
    (hv : wfE v) : wfL (augSubT tmp sl obj parent idx op v) :=
  wfL_cons (wfE_namedExpr _ hp) (wfL_cons (wfE_namedExpr _ hi)
    (wfL_cons (wfE_namedExpr _ (wfE_subscript (wfE_name _) (wfE_name _) (by intro es he; cases he)))
      (wfL_cons (wfE_call (wfE_attribute _ (wfE_name _))
        (wfL_cons (wfE_name _) (wfL_cons (wfE_augAssignExpr op (wfE_name _) hv) wfL_nil))) wfL_nil)))

theorem wfL_augAttrT (tmp obj : String) {parent v : Expr} (a : String) (op : BinOpK) (hp : wfE parent) (hv : wfE v) :
    wfL (augAttrT tmp obj parent a op v) :=
  wfL_cons (wfE_namedExpr _ hp) (wfL_cons (wfE_namedExpr _ (wfE_attribute _ (wfE_name _)))
    (wfL_cons (wfE_call (wfE_name _) (wfL_cons (wfE_name _)
      (wfL_cons (wfE_str _) (wfL_cons (wfE_augAssignExpr op (wfE_name _) hv) wfL_nil)))) wfL_nil))

theorem AugAssigns.wf {n : Nsp} {op : BinOpK} {v : Expr} {st st' : St} {tg : Expr} {es : List Expr}
    (h : AugAssigns n op v st tg es st') (ht : wfE tg) (hv : wfE v) : wfL es := by
  cases h with
  | name hl hr => exact wfL_cons (getAssign_wf hr (wfE_augAssignExpr op (getLoad_wf hl) hv)) wfL_nil
  | subscript hp hi =>
    have := transf_wfSlice hp hi ht
    exact wfL_augSubT _ _ _ op this.1 (wfE_convertIndex this.2) hv
  | «attribute» hp =>
    simp only [wfE] at ht
    exact wfL_augAttrT _ _ _ op (transf_wf n [] _ _ hp ht) hv

theorem wfE_importPlan (a : Alias) : wfE (importPlan a).2 := by
  unfold importPlan
  split
  · exact wfE_call (wfE_name _) (wfL_cons (wfE_str _) wfL_nil)
  · exact wfE_call (wfE_attribute _ (wfE_name _)) (wfL_cons (wfE_str _) wfL_nil)

theorem Each.wf {α : Type} {R : α → Expr → Prop} {as : List α} {es : List Expr} (h : Each R as es)
    (hR : ∀ a e, R a e → wfE e) : wfL es := by
  induction h with
  | nil => exact wfL_nil
  | cons hr _ ih => exact wfL_cons (hR _ _ hr) ih

theorem wfL_map_of {α : Type} (f : α → Expr) (hf : ∀ a, wfE (f a)) : ∀ (l : List α), wfL (l.map f)
  | [] => wfL_nil
  | a :: l => wfL_cons (hf a) (wfL_map_of f hf l)

theorem wfE_importFromHead (tmp : String) (m : Option String) (names : List Alias) (level : Nat) :
    wfE (importFromHead tmp m names level) :=
  wfE_namedExpr _ (wfE_call (wfE_name _) (wfL_cons (wfE_str _) (wfL_cons (wfE_call (wfE_name _) wfL_nil)
    (wfL_cons (wfE_call (wfE_name _) wfL_nil)
      (wfL_cons (wfE_list (wfL_map_of _ (fun _ => wfE_str _) names)) (wfL_cons (wfE_nat level) wfL_nil))))))

theorem wfE_decorate {f : Expr} (hf : wfE f) : ∀ {ds : List Expr}, wfL ds → wfE (decorate ds f)
  | [], _ => hf
  | _ :: _, hd => wfE_call (wfE_of_mem hd _ List.mem_cons_self) (wfL_cons (wfE_decorate hf (by simp only [wfL] at hd; exact hd.2)) wfL_nil)

theorem ClassKws.wf {n : Nsp} {ks rest : List Keyword} {m : Option Expr} (h : ClassKws n ks m rest) (hk : wfKws ks) :
    wfO m ∧ wfKws rest := by
  induction h with
  | nil => exact ⟨by simp only [wfO], wfKws_nil⟩
  | metaclass _ hv ih =>
      simp only [wfKws] at hk
      exact ⟨by simp only [wfO]; exact wfE_getD (ih hk.2).1 (transf_wf n [] _ _ hv hk.1), (ih hk.2).2⟩
  | other _ hv _ ih =>
      simp only [wfKws] at hk ⊢
      exact ⟨(ih hk.2).1, transf_wf n [] _ _ hv hk.1, (ih hk.2).2⟩

/-- the parameter list keeps its shape: as many defaults, in the same positions -/
theorem wfA_head {n : Nsp} {po as : List String} {va : Option String} {ko : List String} {kd kd' : List (Option Expr)}
    {kw : Option String} {ds ds' : List Expr} (hds : transfList n [] ds = .ok ds') (hkd : transfOptList n [] kd = .ok kd')
    (hw : wfA (.mk po as va ko kd kw ds)) : wfA (.mk po as va ko kd' kw ds') := by
  simp only [wfA] at hw ⊢
  refine ⟨?_, ?_, transfList_wfL n [] ds ds' hds hw.2.2.1, transfOptList_wf n [] kd kd' hkd hw.2.2.2⟩
  · rw [transfList_len n [] ds ds' hds]; exact hw.1
  · rw [transfOptList_len n [] kd kd' hkd]; exact hw.2.1

theorem wfItems_params : ∀ (ps : List String), wfItems (ps.map fun p => DictItem.mk (some (Expr.str p)) (.name p))
  | [] => by simp only [List.map, wfItems]
  | p :: ps => by
      simp only [List.map, wfItems]
      exact ⟨wfE_str p, wfE_name p, wfItems_params ps⟩

theorem wfL_ite (c : Prop) [Decidable c] {a b : List Expr} (ha : wfL a) (hb : wfL b) : wfL (if c then a else b) := by
  split <;> assumption

theorem wfE_ite (c : Prop) [Decidable c] {a b : Expr} (ha : wfE a) (hb : wfE b) : wfE (if c then a else b) := by
  split <;> assumption

theorem wfL_opt (c : Prop) [Decidable c] {e : Expr} (h : wfE e) : wfL (if c then [e] else []) :=
  wfL_ite _ (wfL_cons h wfL_nil) wfL_nil

theorem wfL_opt' (c : Prop) [Decidable c] {e : Expr} (h : wfE e) : wfL (if c then [] else [e]) :=
  wfL_ite _ wfL_nil (wfL_cons h wfL_nil)

/-! ### the statement templates -/

theorem wfE_guardE (cfg : Cfg) {flag : Expr} {rest : List Expr} (hf : wfE flag) (h : wfL rest) : wfE (guardE cfg flag rest) :=
  wfE_ifExp (wfE_not hf) (wfE_wrapExprs cfg h) wfE_ellipsis

theorem wfL_breakT (l : LoopCtx) : wfL (breakT l) :=
  wfL_cons (wfE_list (wfL_append (wfL_cons (wfE_brkSet _) wfL_nil) (wfL_opt _ (wfE_setFlag _ _)))) wfL_nil

theorem wfL_continueT (l : LoopCtx) : wfL (continueT l) :=
  wfL_cons (wfE_list (wfL_opt _ (wfE_setFlag _ _))) wfL_nil

theorem wfL_returnT (cx : Ctx) {v : Option Expr} (hv : wfO v) : wfL (returnT cx v) := by
  refine wfL_cons (wfE_list (wfL_append (wfL_append (wfL_append ?_ (wfL_map_of _ wfE_brkSet _))
    (wfL_map_of _ (fun l => wfE_setFlag _ _) _)) (wfL_opt _ (wfE_setFlag _ _)))) wfL_nil
  cases v with
  | none => exact wfL_nil
  | some e => exact wfL_cons (wfE_namedExpr _ (by simpa only [wfO] using hv)) wfL_nil

theorem wfL_ifT (cfg : Cfg) {t : Expr} {b o : List Expr} (ht : wfE t) (hb : wfL b) (ho : wfL o) : wfL (ifT cfg t b o) := by
  have hbw := wfE_wrapExprs cfg hb
  have how := wfE_wrapExprs cfg ho
  unfold ifT
  split
  · split
    · exact wfL_cons (wfE_boolOp2 _ ht hbw) wfL_nil
    · exact wfL_cons (wfE_boolOp2 _ (wfE_boolOp2 _ ht (wfE_list (wfL_cons hbw wfL_nil))) how) wfL_nil
  · exact wfL_cons (wfE_ifExp ht hbw how) wfL_nil

theorem wfL_loopBody (l : LoopCtx) {b : List Expr} (hb : wfL b) : wfL (loopBody l b) :=
  wfL_append (wfL_opt _ (wfE_setFlag _ _)) hb

theorem wfL_elseT (cfg : Cfg) (hasBreak : Bool) {broke : Expr} {o : List Expr} (hf : wfE broke) (ho : wfL o) :
    wfL (elseT cfg hasBreak broke o) :=
  wfL_opt' _ (wfE_ite _ (wfE_guardE _ hf ho) (wfE_wrapExprs _ ho))

theorem wfL_whileT (cfg : Cfg) (l : LoopCtx) (hasBreak : Bool) {t : Expr} {b o : List Expr} (ht : wfE t) (hb : wfL b)
    (ho : wfL o) : wfL (whileT cfg l hasBreak t b o) :=
  wfL_append (wfL_append (wfL_opt _ (wfE_setFlag _ _))
    (wfL_cons (wfE_listComp1 _ (wfE_wrapExprs _ (wfL_loopBody l hb))
      (wfE_takewhileIter (wfE_ite _ (wfE_boolOp2 _ (wfE_not (wfE_name _)) ht) ht))) wfL_nil))
    (wfL_elseT _ _ (wfE_name _) ho)

theorem wfL_forT (cfg : Cfg) (l : LoopCtx) (plain hasBreak : Bool) (item : String) {itr : Expr} {asg b o : List Expr}
    (hi : wfE itr) (ha : wfL asg) (hb : wfL b) (ho : wfL o) : wfL (forT cfg l plain hasBreak item itr asg b o) := by
  unfold forT
  split
  · exact wfL_cons (wfE_listComp1 _ (wfE_wrapExprs _ (wfL_append ha hb)) hi) wfL_nil
  · exact wfL_append (wfL_append (wfL_opt _ (wfE_namedExpr _ (wfE_call (wfE_name _) (wfL_cons hi wfL_nil))))
      (wfL_cons (wfE_listComp1 _ (wfE_wrapExprs _ (wfL_loopBody l (wfL_append ha hb))) (wfE_ite _ (wfE_name _) hi)) wfL_nil))
      (wfL_elseT _ _ (wfE_attribute _ (wfE_name _)) ho)

theorem wfE_defLambda (cfg : Cfg) (inner : Nsp) (fnUsed : Bool) {args : Arguments} {b : List Expr} (ha : wfA args)
    (hb : wfL b) : wfE (defLambda cfg inner fnUsed args b) := by
  refine wfE_lambda ha (wfE_subscript (wfE_list (wfL_append (wfL_append ?_ ?_) (wfL_cons (wfE_name _) wfL_nil)))
    wfE_neg1 (by intro es he; cases he))
  · exact wfL_append (wfL_append (wfL_append (wfL_cons (wfE_namedExpr _ wfE_none) wfL_nil)
      (wfL_opt _ (wfE_name _))) (wfL_opt _ (wfE_setFlag _ _)))
      (wfL_opt' _ (wfE_namedExpr _ (by simp only [wfE]; exact wfItems_params _)))
  · cases cfg.wrapper with
    | list => exact hb
    | chainCall => exact wfL_cons (wfE_wrapExprs _ hb) wfL_nil

theorem wfE_hookIf (inner : Nsp) (name : String) {lam : Expr} (h : wfE lam) : wfE (hookIf inner name lam) :=
  wfE_ite _ (wfE_hookWrap h) h

theorem wfE_classLoad (inner : Nsp) (loader : String) {self : Expr} {b : List Expr} (hs : wfE self) (hb : wfL b) :
    wfE (classLoad inner loader self b) :=
  wfE_namedExpr _ (wfE_lambda wfA_empty (wfE_subscript (wfE_list
    (wfL_append (wfL_append (wfL_cons (wfE_namedExpr _ hs)
      (wfL_cons (wfE_namedExpr _ (by simp only [wfE, wfItems])) wfL_nil)) hb) (wfL_cons (wfE_name _) wfL_nil)))
    wfE_neg1 (by intro es he; cases he)))

theorem wfE_classFill (loader : String) {self : Expr} (hs : wfE self) : wfE (classFill loader self) :=
  wfE_listCompG (wfE_call (wfE_name _) (wfL_cons hs (wfL_cons (wfE_name _) (wfL_cons (wfE_name _) wfL_nil))))
    rfl (by simp only [wfE]; exact wfElts_cons (wfE_name _) (wfElts_cons (wfE_name _) wfElts_nil))
    (wfE_call (wfE_attribute _ (wfE_call (wfE_name _) wfL_nil)) wfL_nil)

theorem wfE_classCreate (name : String) {metaE : Option Expr} {bases : List Expr} {kws : List Keyword} (hm : wfO metaE)
    (hb : wfElts bases) (hk : wfKws kws) : wfE (classCreate name metaE bases kws) := by
  simp only [classCreate, wfE]
  exact ⟨wfE_getD hm (wfE_name _), wfElts_cons (wfE_str _) (wfElts_cons (by simp only [wfE]; exact hb)
    (wfElts_cons (by simp only [wfE, wfItems]) wfElts_nil)), hk⟩

theorem Redecorated.wf {n : Nsp} {name : String} {self : Expr} {ds tail : List Expr} (h : Redecorated n name self ds tail)
    (hs : wfE self) (hd : wfL ds) : wfL tail := by
  cases h with
  | none => exact wfL_nil
  | some hds hr _ => exact wfL_cons (getAssign_wf hr (wfE_decorate hs (transfList_wfL n [] _ _ hds hd))) wfL_nil


/-! ### statements and blocks -/

theorem LowersB.wf {cx : Ctx} {ss : List Stmt} {st st' : St} {es : List Expr} (h : LowersB cx ss st es st')
    (hw : wfBlock ss) : wfL es := by
  induction h using LowersB.rec (motive_1 := fun _ s _ es _ _ => wfS s → wfL es) with
  | expr hv hw => exact wfL_cons (transf_wf _ [] _ _ hv (by simpa only [wfS] using hw)) wfL_nil
  | pass_ => exact wfL_cons wfE_ellipsis wfL_nil
  | global_ | nonlocal_ | annAssign_ | nil => exact wfL_nil
  | break_ => exact wfL_breakT _
  | continue_ => exact wfL_continueT _
  | return_ hv _ hw => exact wfL_returnT _ (transfOpt_wf _ [] _ _ hv (by simpa only [wfS] using hw))
  | if_ _ _ ht ihb iho hw =>
      simp only [wfS] at hw
      exact wfL_ifT _ (transf_wf _ [] _ _ ht hw.1) (ihb hw.2.1) (iho hw.2.2)
  | while_ _ _ ht ihb iho hw =>
      simp only [wfS] at hw
      exact wfL_whileT _ _ _ (transf_wf _ [] _ _ ht hw.1) (ihb hw.2.1) (iho hw.2.2)
  | for_ _ _ ha hi ihb iho hw =>
      simp only [wfS] at hw
      exact wfL_forT _ _ _ _ _ (transf_wf _ [] _ _ hi hw.2.1) (ha.wf hw.1 (wfE_name _)) (ihb hw.2.2.1) (iho hw.2.2.2)
  | assignTmp hr hv _ hw =>
      simp only [wfS] at hw
      exact wfL_cons (wfE_namedExpr _ (transf_wf _ [] _ _ hv hw.2)) (hr.wf (fun _ _ _ => wfE_name _) (wfElts_of_wfL hw.1))
  | assign hr hv _ hw =>
      simp only [wfS] at hw
      exact hr.wf (fun _ _ _ => transf_wf _ [] _ _ hv hw.2) (wfElts_of_wfL hw.1)
  | annAssign _ ih hw =>
      simp only [wfS, wfO] at hw
      exact ih (by simp only [wfS]; exact ⟨wfL_cons hw.1 wfL_nil, hw.2⟩)
  | augAssign ha hv hw =>
      simp only [wfS] at hw
      exact ha.wf hw.1 (transf_wf _ [] _ _ hv hw.2)
  | import_ h => exact h.wf fun a _ he => getAssign_wf he (wfE_importPlan a)
  | importFrom h =>
      exact wfL_cons (wfE_importFromHead ..) (h.wf fun _ _ he => getAssign_wf he.2 (wfE_attribute _ (wfE_name _)))
  | functionDef _ hds hkd hdec _ he ihb hw =>
      simp only [wfS] at hw
      exact wfL_cons (getAssign_wf he (wfE_hookIf _ _ (wfE_decorate
        (wfE_defLambda _ _ _ (wfA_head hds hkd hw.1) (ihb hw.2.1)) (transfList_wfL _ [] _ _ hdec hw.2.2)))) wfL_nil
  | classDef _ hk hd hbs _ hc hs ihb hw =>
      simp only [wfS] at hw
      have hkw := hk.wf hw.2.1
      exact wfL_cons (getAssign_wf hc (wfE_classCreate _ hkw.1 (transfList_wfElts _ [] _ _ hbs hw.1) hkw.2))
        (wfL_cons (wfE_classLoad _ _ (getLoad_wf hs) (ihb hw.2.2.1))
          (wfL_cons (wfE_classFill _ (getLoad_wf hs)) (hd.wf (getLoad_wf hs) hw.2.2.2)))
  | last _ _ ih => exact ih (by simp only [wfBlock] at hw; exact hw.1)
  | guard _ _ _ _ ih ihr =>
      simp only [wfBlock] at hw
      exact wfL_append (ih hw.1) (wfL_cons (wfE_guardE _ (wfE_name _) (ihr hw.2)) wfL_nil)
  | seq _ _ _ _ ih ihr =>
      simp only [wfBlock] at hw
      exact wfL_append (ih hw.1) (ihr hw.2)

theorem lowerBlock_wf : ∀ (ss : List Stmt) (cx : Ctx) (st : St) (es : List Expr) (st' : St),
      lowerBlock cx ss st = .ok (es, st') → wfBlock ss → wfL es :=
  fun ss cx st es st' h => (lowerBlock_graph ss cx st es st' h).wf


/-! ### the whole program -/

theorem wfE_importHelper (m : String) : wfE (importHelper m) :=
  wfE_namedExpr _ (wfE_call (wfE_name _) (wfL_cons (wfE_str _) wfL_nil))

theorem wfL_prelude (st : St) {b : List Expr} (hb : wfL b) : wfL (prelude st b) := by
  have h1 := wfL_ite (st.useItertools = true) (wfL_cons (wfE_importHelper "itertools") hb) hb
  have h2 := wfL_ite (st.useImportlib = true) (wfL_cons (wfE_importHelper "importlib") h1) h1
  exact wfL_ite _ (wfL_cons wfE_iterWrapperBody h2) h2

/-- **The converted program is a well-formed expression tree** whenever the expressions of the
    source program are. -/
theorem lowerFull_wf (cfg : Cfg) (root : SymScope) (body : List Stmt) (e : Expr)
    (h : lowerFull cfg root body = .ok e) (hw : wfBlock body) : wfE e := by
  obtain ⟨g, sup, b, st, _, hb, rfl⟩ := lowerFull_graph h
  exact wfE_wrapExprs cfg (wfL_prelude st (hb.wf hw))

end OlVerif
