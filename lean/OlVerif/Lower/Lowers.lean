/-
  The graph of the statement lowering.  `lowerStmt cx s st = .ok (es, st')` is unfolded here
  into inductive relations whose constructors say, per statement kind, which sub-lowerings succeeded
  and which *template* (a pure function of the lowered parts) was emitted.  A property of the whole
  output is then an induction over `Lowers` / `LowersB` plus one lemma per template.

  What the constructors still state as equations are the leaves: a run of the expression transformer
  (`transf`, `transfList`, `transfOpt`, `transfOptList`: Lower/TransfInd.lean is their induction) and a
  question to the namespace (`findChild`, `getAssign`, `getLoad`).  Every other step of the lowering -
  targets, augmented targets, decorators, parameter lists, class keywords, imports - appears as a
  relation or as its transformer equations.
-/
import OlVerif.Lower.Except
import OlVerif.Import.Bridge

namespace OlVerif

/-! ### templates -/

/-- `rest if not flag else ...` -/
def guardE (cfg : Cfg) (flag : Expr) (rest : List Expr) : Expr :=
  .ifExp (Expr.not_ flag) (wrapExprs cfg rest) Expr.ellipsis

def breakT (l : LoopCtx) : List Expr :=
  [.list ([l.brkSet] ++ (if l.used then [setFlag l.intr true] else []))]

def continueT (l : LoopCtx) : List Expr :=
  [.list (if l.used then [setFlag l.intr true] else [])]

def returnT (cx : Ctx) (v : Option Expr) : List Expr :=
  [.list ((match v with | none => [] | some e => [Expr.namedExpr cx.nsp.retvName e]) ++
    cx.loops.map LoopCtx.brkSet ++
    ((cx.loops.reverse.filter (·.used)).map fun l => setFlag l.intr true) ++
    (if cx.fnUsed then [setFlag cx.nsp.retName true] else []))]

def ifT (cfg : Cfg) (t : Expr) (b o : List Expr) : List Expr :=
  match cfg.ifStyle with
  | .shortCircuit =>
      if o.isEmpty then [.boolOp .and_ [t, wrapExprs cfg b]]
      else [.boolOp .or_ [.boolOp .and_ [t, .list [wrapExprs cfg b]], wrapExprs cfg o]]
  | .ifExpr => [.ifExp t (wrapExprs cfg b) (wrapExprs cfg o)]

/-- the loop record of a `while` (`w = true`) or `for` statement and the state after its two names are taken -/
def newLoop (w : Bool) (st : St) (body : List Stmt) : LoopCtx × St :=
  ({ isWhile := w, flag := (st.fresh (if w then "break" else "it")).1,
     intr := ((st.fresh (if w then "break" else "it")).2.fresh "interrupt").1, used := guardsInL .loop body },
   ((st.fresh (if w then "break" else "it")).2.fresh "interrupt").2)

def Ctx.push (cx : Ctx) (l : LoopCtx) : Ctx := { cx with loops := cx.loops ++ [l] }

def loopBody (l : LoopCtx) (b : List Expr) : List Expr := (if l.used then [setFlag l.intr false] else []) ++ b

/-- the `else` block of a loop; `broke` reads the loop's break flag -/
def elseT (cfg : Cfg) (hasBreak : Bool) (broke : Expr) (o : List Expr) : List Expr :=
  if o.isEmpty then [] else [if hasBreak then guardE cfg broke o else wrapExprs cfg o]

def whileT (cfg : Cfg) (l : LoopCtx) (hasBreak : Bool) (t : Expr) (b o : List Expr) : List Expr :=
  (if hasBreak then [setFlag l.flag false] else []) ++
  [.listComp (wrapExprs cfg (loopBody l b)) [.mk (.name whileCounter)
    (takewhileIter (if hasBreak then .boolOp .and_ [Expr.not_ (.name l.flag), t] else t)) [] false]] ++
  elseT cfg hasBreak (.name l.flag) o

def forT (cfg : Cfg) (l : LoopCtx) (plain hasBreak : Bool) (item : String) (itr : Expr) (asg b o : List Expr) :
    List Expr :=
  if plain then [.listComp (wrapExprs cfg (asg ++ b)) [.mk (.name item) itr [] false]]
  else
    (if hasBreak then [Expr.namedExpr l.flag (.call (.name iterWrapperName) [itr] [])] else []) ++
    [.listComp (wrapExprs cfg (loopBody l (asg ++ b))) [.mk (.name item) (if hasBreak then .name l.flag else itr) [] false]] ++
    elseT cfg hasBreak (.attribute (.name l.flag) "_break") o

def forSt (plain hasBreak : Bool) (st : St) : St :=
  if plain then st else if hasBreak then { st with usePreset := true } else st

def needsTmp (targets : List Expr) : Bool :=
  targets.length > 1 || (match targets with | [.attribute ..] => true | [.subscript ..] => true | _ => false)

def defLambda (cfg : Cfg) (inner : Nsp) (fnUsed : Bool) (args : Arguments) (b : List Expr) : Expr :=
  .lambda args (.subscript (listWrapper (
    ([.namedExpr inner.retvName Expr.none_] ++
     (if inner.zeroArgSuper then [.name "__class__"] else []) ++
     (if fnUsed then [setFlag inner.retName false] else []) ++
     (if inner.innerNonlocal.isEmpty then [] else
       [.namedExpr inner.dictName (.dict (inner.nonlocalParams.mergeSort.map fun p =>
         .mk (some (Expr.str p)) (.name p)))])) ++
    (match cfg.wrapper with | .list => b | .chainCall => [wrapExprs cfg b]) ++
    [.name inner.retvName])) Expr.neg1)

def hookIf (inner : Nsp) (name : String) (lam : Expr) : Expr :=
  if inner.isMethod && (name == "__init_subclass__" || name == "__class_getitem__") then hookWrap lam else lam

theorem hookIf_cases (inner : Nsp) (name : String) (lam : Expr) :
    hookIf inner name lam = lam ∨ hookIf inner name lam = hookWrap lam := by
  unfold hookIf; split
  · exact Or.inr rfl
  · exact Or.inl rfl

/-- `d1(d2(… dk(f)))`: the last decorator is applied first -/
def decorate (ds : List Expr) (f : Expr) : Expr := ds.foldr (fun d acc => .call d [acc] []) f

def classCreate (name : String) (metaE : Option Expr) (bases : List Expr) (kws : List Keyword) : Expr :=
  .call (metaE.getD (.name "type")) [Expr.str name, .tuple bases, .dict []] kws

def classLoad (inner : Nsp) (loader : String) (self : Expr) (b : List Expr) : Expr :=
  .namedExpr loader (.lambda Arguments.empty (.subscript (.list
    ([.namedExpr "__class__" self, .namedExpr inner.dictName (.dict [])] ++ b ++ [.name inner.dictName])) Expr.neg1))

def classFill (loader : String) (self : Expr) : Expr :=
  .listComp (.call (.name "setattr") [self, .name classKey, .name classValue] [])
    [.mk (.tuple [.name classKey, .name classValue])
      (.call (.attribute (.call (.name loader) [] []) "items") [] []) [] false]

/-- the value `assign_tuple_list` hands to the element at `index` of a pattern of length `len` -/
def eltValue (tmp : String) (len index : Nat) (haveStarred : Bool) (e : Expr) : Expr :=
  if e.isStarred then
    let up : Int := (index : Int) - (len : Int) + 1
    let upper : Option Expr := if up = 0 then none else some (intConstant up)
    .call (.name "list") [.subscript (.name tmp) (.slice (some (.const (.int index))) upper none)] []
  else
    let idx : Int := if haveStarred then (index : Int) - (len : Int) else (index : Int)
    .subscript (.name tmp) (intConstant idx)

/-- `tmp := tuple(v)`, the head of a destructuring -/
def unpackHead (tmp : String) (v : Expr) : Expr := .namedExpr tmp (.call (.name "tuple") [v] [])

def importHelper (m : String) : Expr := .namedExpr m (.call (.name "__import__") [Expr.str m] [])

/-- the helper definitions `convert` puts before the module's statements -/
def prelude (st : St) (b : List Expr) : List Expr :=
  let b := if st.useItertools then importHelper "itertools" :: b else b
  let b := if st.useImportlib then importHelper "importlib" :: b else b
  if st.usePreset then iterWrapperBody :: b else b

/-! ### assignment targets -/

/- `AssignsElts n inP val index hs ts st es st'`: the targets `ts` are assigned one after the other, the one at position `i`
   receiving `val i …`.  One target is the list that holds only it (`Assigns.toElts`), the elements of a pattern
   receive `eltValue tmp len`, the targets of a chained assignment all the same value (`assignTargets_graph`).
   `inP` is `assign_auto`'s `inPattern` (a starred target is legal only as an element of a pattern), `index` the position
   of the first of `ts`, `hs` its `have_starred` (a star was seen before `index`): `(t.isStarred && hs) = false` is
   "no second star". -/
mutual
  inductive Assigns (n : Nsp) : Bool → Expr → Expr → St → List Expr → St → Prop
    | name {inP id v st r} : n.getAssign id v = .ok r → Assigns n inP (.name id) v st [r] st
    | attribute {inP o a v st o'} : transf n [] o = .ok o' →
        Assigns n inP (.attribute o a) v st [.call (.name "setattr") [o', Expr.str a, v] []] st
    | subscript {inP o s v st o' s'} : transf n [] o = .ok o' → transf n [] s = .ok s' →
        Assigns n inP (.subscript o s) v st [.call (.attribute o' "__setitem__") [convertIndex s', v] []] st
    | tuple {inP ts v st rest st'} :
        AssignsElts n true (eltValue (st.fresh "assign").1 ts.length) 0 false ts (st.fresh "assign").2 rest st' →
        Assigns n inP (.tuple ts) v st (unpackHead (st.fresh "assign").1 v :: rest) st'
    | list {inP ts v st rest st'} :
        AssignsElts n true (eltValue (st.fresh "assign").1 ts.length) 0 false ts (st.fresh "assign").2 rest st' →
        Assigns n inP (.list ts) v st (unpackHead (st.fresh "assign").1 v :: rest) st'
    | starred {sub v st es st'} : Assigns n false sub v st es st' → Assigns n true (.starred sub) v st es st'
  inductive AssignsElts (n : Nsp) : Bool → (Nat → Bool → Expr → Expr) → Nat → Bool → List Expr → St → List Expr → St → Prop
    | nil {inP val index hs st} : AssignsElts n inP val index hs [] st [] st
    | cons {inP val index hs t ts st a st1 b st2} : Assigns n inP t (val index hs t) st a st1 →
        AssignsElts n inP val (index + 1) (hs || t.isStarred) ts st1 b st2 → (t.isStarred && hs) = false →
        AssignsElts n inP val index hs (t :: ts) st (a ++ b) st2
end

theorem Assigns.toElts {n : Nsp} {inP : Bool} {t v : Expr} {st st' : St} {es : List Expr} (h : Assigns n inP t v st es st') :
    AssignsElts n inP (fun _ _ _ => v) 0 false [t] st es st' :=
  List.append_nil es ▸ .cons h .nil (Bool.and_false _)

mutual
  theorem assignAuto_graph (n : Nsp) : ∀ (inP : Bool) (t v : Expr) (st : St) (es : List Expr) (st' : St),
      assignAuto n inP t v st = .ok (es, st') → Assigns n inP t v st es st'
    | inP, .name id, v, st, es, st', h => by
        simp only [assignAuto, bind_eq_ok, pure_eq_ok, Prod.mk.injEq] at h
        obtain ⟨r, hr, rfl, rfl⟩ := h
        exact .name hr
    | inP, .attribute o a, v, st, es, st', h => by
        simp only [assignAuto, bind_eq_ok, pure_eq_ok, Prod.mk.injEq] at h
        obtain ⟨o', ho, rfl, rfl⟩ := h
        exact .attribute ho
    | inP, .subscript o s, v, st, es, st', h => by
        simp only [assignAuto, bind_eq_ok, pure_eq_ok, Prod.mk.injEq] at h
        obtain ⟨s', hs, o', ho, rfl, rfl⟩ := h
        exact .subscript ho hs
    | inP, .tuple ts, v, st, es, st', h | inP, .list ts, v, st, es, st', h => by
        simp only [assignAuto, bind_eq_ok, pure_eq_ok, Prod.exists, Prod.mk.injEq] at h
        obtain ⟨rest, st2, hr, rfl, rfl⟩ := h
        constructor
        exact assignElts_graph n _ _ _ _ ts _ rest _ hr
    | inP, .starred sub, v, st, es, st', h => by
        simp only [assignAuto] at h
        split at h
        · rename_i hp; subst hp
          exact .starred (assignAuto_graph n false sub v st es st' h)
        · cases h
    | inP, .const _, v, st, es, st', h | inP, .joinedStr _, v, st, es, st', h
    | inP, .formattedValue .., v, st, es, st', h | inP, .set _, v, st, es, st', h
    | inP, .dict _, v, st, es, st', h | inP, .slice .., v, st, es, st', h
    | inP, .call .., v, st, es, st', h | inP, .binOp .., v, st, es, st', h
    | inP, .boolOp .., v, st, es, st', h | inP, .unaryOp .., v, st, es, st', h
    | inP, .compare .., v, st, es, st', h | inP, .ifExp .., v, st, es, st', h
    | inP, .lambda .., v, st, es, st', h | inP, .namedExpr .., v, st, es, st', h
    | inP, .listComp .., v, st, es, st', h | inP, .setComp .., v, st, es, st', h
    | inP, .dictComp .., v, st, es, st', h | inP, .generatorExp .., v, st, es, st', h
    | inP, .yield_ _, v, st, es, st', h | inP, .yieldFrom _, v, st, es, st', h
    | inP, .await _, v, st, es, st', h => by cases h

  theorem assignElts_graph (n : Nsp) : ∀ (tmp : String) (len index : Nat) (hs : Bool) (ts : List Expr) (st : St)
      (es : List Expr) (st' : St), assignElts n tmp len index hs ts st = .ok (es, st') →
      AssignsElts n true (eltValue tmp len) index hs ts st es st'
    | tmp, len, index, hs, [], st, es, st', h => by cases h; exact .nil
    | tmp, len, index, hs, t :: ts, st, es, st', h => by
        simp only [assignElts] at h
        split at h
        · cases h
        · rename_i hn
          simp only [bind_eq_ok, pure_eq_ok, Prod.exists, Prod.mk.injEq] at h
          obtain ⟨a, st1, ha, b, st2, hb, rfl, rfl⟩ := h
          exact .cons (assignAuto_graph n true t _ st a st1 ha) (assignElts_graph n tmp len _ _ ts st1 b _ hb)
            (Bool.not_eq_true _ ▸ hn)
end

theorem AssignsElts.single {n : Nsp} {inP : Bool} {val : Nat → Bool → Expr → Expr} {index : Nat} {hs : Bool} {t : Expr}
    {st st' : St} {es : List Expr} (h : AssignsElts n inP val index hs [t] st es st') :
    Assigns n inP t (val index hs t) st es st' := by
  cases h with
  | cons ha hn _ => cases hn; rw [List.append_nil]; exact ha

theorem Assigns.not_starred {n : Nsp} {t v : Expr} {st st' : St} {es : List Expr} (h : Assigns n false t v st es st') :
    t.isStarred = false := by
  cases h <;> rfl

theorem assignTargets_graph (n : Nsp) (v : Expr) : ∀ (ts : List Expr) (index : Nat) (st : St) (es : List Expr) (st' : St),
    assignTargets n v ts st = .ok (es, st') → AssignsElts n false (fun _ _ _ => v) index false ts st es st'
  | [], _, st, es, st', h => by cases h; exact .nil
  | t :: ts, index, st, es, st', h => by
      simp only [assignTargets, bind_eq_ok, pure_eq_ok, Prod.exists, Prod.mk.injEq] at h
      obtain ⟨a, st1, ha, b, st2, hb, rfl, rfl⟩ := h
      have ha := assignAuto_graph n false t v st a st1 ha
      refine .cons ha ?_ (Bool.and_false _)
      rw [ha.not_starred]
      exact assignTargets_graph n v ts (index + 1) st1 b _ hb

/-! ### augmented assignment, decorators, parameter lists, class keywords -/

def augSubT (tmp sl obj : String) (parent idx : Expr) (op : BinOpK) (v : Expr) : List Expr :=
  [.namedExpr obj parent, .namedExpr sl idx, .namedExpr tmp (.subscript (.name obj) (.name sl)),
   .call (.attribute (.name obj) "__setitem__") [.name sl, augAssignExpr (.name tmp) op v] []]

def augAttrT (tmp obj : String) (parent : Expr) (a : String) (op : BinOpK) (v : Expr) : List Expr :=
  [.namedExpr obj parent, .namedExpr tmp (.attribute (.name obj) a),
   .call (.name "setattr") [.name obj, Expr.str a, augAssignExpr (.name tmp) op v] []]

inductive AugAssigns (n : Nsp) (op : BinOpK) (v : Expr) (st : St) : Expr → List Expr → St → Prop
  | name {x t r} : n.getLoad [] x = .ok t → n.getAssign x (augAssignExpr t op v) = .ok r →
      AugAssigns n op v st (.name x) [r] (st.fresh "augass").2
  | subscript {o i p ix} : transf n [] o = .ok p → transf n [] i = .ok ix →
      AugAssigns n op v st (.subscript o i)
        (augSubT (st.fresh "augass").1 ((st.fresh "augass").2.fresh "sllice").1
          (((st.fresh "augass").2.fresh "sllice").2.fresh "augobj").1 p (convertIndex ix) op v)
        (((st.fresh "augass").2.fresh "sllice").2.fresh "augobj").2
  | attribute {o a p} : transf n [] o = .ok p →
      AugAssigns n op v st (.attribute o a)
        (augAttrT (st.fresh "augass").1 ((st.fresh "augass").2.fresh "augobj").1 p a op v)
        ((st.fresh "augass").2.fresh "augobj").2

theorem lowerAugAssign_graph {n : Nsp} {tg : Expr} {op : BinOpK} {value : Expr} {st st' : St} {es : List Expr}
    (h : lowerAugAssign n tg op value st = .ok (es, st')) :
    ∃ v, transf n [] value = .ok v ∧ AugAssigns n op v st tg es st' := by
  unfold lowerAugAssign at h
  obtain ⟨v, hv, h⟩ := bind_ok h
  refine ⟨v, hv, ?_⟩
  cases tg with
  | name x =>
    obtain ⟨t, ht, h⟩ := bind_ok h
    obtain ⟨r, hr, h⟩ := bind_ok h
    cases pure_ok h
    exact .name ht hr
  | subscript o i =>
    obtain ⟨p, hp, h⟩ := bind_ok h
    obtain ⟨ix, hix, h⟩ := bind_ok h
    cases pure_ok h
    exact .subscript hp hix
  | «attribute» o a =>
    obtain ⟨p, hp, h⟩ := bind_ok h
    cases pure_ok h
    exact .attribute hp
  | _ => cases h

theorem applyDecorators_ok (n : Nsp) : ∀ (ds : List Expr) (f r : Expr), applyDecorators n ds f = .ok r →
    ∃ ds', transfList n [] ds = .ok ds' ∧ r = ds'.foldr (fun d acc => Expr.call d [acc] []) f
  | [], f, r, h => by cases h; exact ⟨[], rfl, rfl⟩
  | d :: ds, f, r, h => by
      simp only [applyDecorators, bind_eq_ok, pure_eq_ok] at h
      obtain ⟨inner, hi, d', hd, rfl⟩ := h
      obtain ⟨ds', hds, rfl⟩ := applyDecorators_ok n ds f inner hi
      refine ⟨d' :: ds', ?_, rfl⟩
      simp only [transfList, hd, hds]; rfl

theorem applyDecorators_decorate (n : Nsp) (f : Expr) : ∀ (ds ds' : List Expr), transfList n [] ds = .ok ds' →
    applyDecorators n ds f = .ok (decorate ds' f)
  | [], ds', h => by cases h; rfl
  | d :: ds, ds', h => by
      simp only [transfList, bind_eq_ok, pure_eq_ok] at h
      obtain ⟨d', hd, rest, hr, rfl⟩ := h
      simp only [applyDecorators, applyDecorators_decorate n f ds rest hr, hd]; rfl

theorem lowerFunctionHead_ok {n : Nsp} {po as : List String} {va : Option String} {ko : List String}
    {kd : List (Option Expr)} {kw : Option String} {ds : List Expr} {a' : Arguments}
    (h : lowerFunctionHead n (.mk po as va ko kd kw ds) = .ok a') :
    ∃ ds' kd', transfList n [] ds = .ok ds' ∧ transfOptList n [] kd = .ok kd' ∧ a' = .mk po as va ko kd' kw ds' := by
  simp only [lowerFunctionHead, bind_eq_ok, pure_eq_ok] at h
  obtain ⟨ds', hds, kd', hkd, rfl⟩ := h
  exact ⟨ds', kd', hds, hkd, rfl⟩

theorem lowerFunctionHead_eq {n : Nsp} {po as : List String} {va : Option String} {ko : List String}
    {kd kd' : List (Option Expr)} {kw : Option String} {ds ds' : List Expr} (hds : transfList n [] ds = .ok ds')
    (hkd : transfOptList n [] kd = .ok kd') :
    lowerFunctionHead n (.mk po as va ko kd kw ds) = .ok (.mk po as va ko kd' kw ds') := by
  simp only [lowerFunctionHead, hds, hkd]; rfl

/-- the keywords of a class statement: the last `metaclass=` is taken out, the others are transformed in order -/
inductive ClassKws (n : Nsp) : List Keyword → Option Expr → List Keyword → Prop
  | nil : ClassKws n [] none []
  | metaclass {v v' ks m rest} : ClassKws n ks m rest → transf n [] v = .ok v' →
      ClassKws n (.mk (some "metaclass") v :: ks) (some (m.getD v')) rest
  | other {a v v' ks m rest} : ClassKws n ks m rest → transf n [] v = .ok v' → (a == some "metaclass") = false →
      ClassKws n (.mk a v :: ks) m (.mk a v' :: rest)

theorem classKeywords_graph (n : Nsp) : ∀ (ks : List Keyword) (m : Option Expr) (rest : List Keyword),
    classKeywords n ks = .ok (m, rest) ↔ ClassKws n ks m rest
  | [], m, rest => by
      constructor
      · intro h; cases h; exact .nil
      · intro h; cases h; rfl
  | .mk a v :: ks, m, rest => by
      simp only [classKeywords, bind_eq_ok, Prod.exists]
      constructor
      · rintro ⟨v', hv, m0, rest0, hr, h⟩
        have hr := (classKeywords_graph n ks m0 rest0).mp hr
        rcases ite_ok h with ⟨hc, h⟩ | ⟨hc, h⟩ <;> cases pure_ok h
        · cases eq_of_beq hc; exact .metaclass hr hv
        · exact .other hr hv (Bool.not_eq_true _ ▸ hc)
      · intro h
        cases h with
        | metaclass hr hv => exact ⟨_, hv, _, _, (classKeywords_graph n ks _ _).mpr hr, rfl⟩
        | other hr hv hc => exact ⟨_, hv, _, _, (classKeywords_graph n ks _ _).mpr hr, by rw [if_neg (by simp [hc])]; rfl⟩

/-! ### imports -/

/-- one emitted expression per element, in order, each related to its element by `R` (the aliases of an import) -/
inductive Each {α : Type} (R : α → Expr → Prop) : List α → List Expr → Prop
  | nil : Each R [] []
  | cons {a as e es} : R a e → Each R as es → Each R (a :: as) (e :: es)

theorem Each.left {α : Type} {R : α → Expr → Prop} {as : List α} {es : List Expr} (h : Each R as es) :
    ∀ a ∈ as, ∃ e, R a e := by
  induction h with
  | nil => exact fun _ h => nomatch h
  | cons hr _ ih =>
    intro a ha
    rcases List.mem_cons.mp ha with rfl | ha
    · exact ⟨_, hr⟩
    · exact ih a ha

theorem Each.zip {α : Type} {R : α → Expr → Prop} {as : List α} {es : List Expr} (h : Each R as es) :
    es.length = as.length ∧ ∀ p ∈ as.zip es, R p.1 p.2 := by
  induction h with
  | nil => exact ⟨rfl, fun _ h => nomatch h⟩
  | cons hr _ ih =>
    refine ⟨by simp [ih.1], fun p hp => ?_⟩
    rcases List.mem_cons.mp hp with rfl | hp
    · exact hr
    · exact ih.2 p hp

theorem lowerImport_graph (n : Nsp) : ∀ (as : List Alias) (es : List Expr), lowerImport n as = .ok es →
    Each (fun a e => n.getAssign (importPlan a).1 (importPlan a).2 = .ok e) as es
  | [], es, h => by cases h; exact .nil
  | a :: as, es, h => by
      simp only [lowerImport] at h
      have hp : ∃ e rest, n.getAssign (importPlan a).1 (importPlan a).2 = .ok e ∧ lowerImport n as = .ok rest ∧ es = e :: rest := by
        unfold importPlan
        split at h <;> rename_i hc
        all_goals
          simp only [bind_eq_ok, pure_eq_ok] at h
          obtain ⟨e, he, rest, hr, rfl⟩ := h
        · exact ⟨e, rest, by rw [if_pos hc]; exact he, hr, rfl⟩
        · exact ⟨e, rest, by rw [if_neg hc]; exact he, hr, rfl⟩
      obtain ⟨e, rest, he, hr, rfl⟩ := hp
      exact .cons he (lowerImport_graph n as rest hr)

theorem lowerImportFromNames_graph (n : Nsp) (tmp : String) : ∀ (as : List Alias) (es : List Expr),
    lowerImportFromNames n tmp as = .ok es →
    Each (fun a e => (a.name == "*") = false ∧ n.getAssign (a.asname.getD a.name) (.attribute (.name tmp) a.name) = .ok e) as es
  | [], es, h => by cases h; exact .nil
  | a :: as, es, h => by
      simp only [lowerImportFromNames] at h
      split at h
      · cases h
      · rename_i hs
        simp only [bind_eq_ok, pure_eq_ok] at h
        obtain ⟨e, he, rest, hr, rfl⟩ := h
        exact .cons ⟨Bool.not_eq_true _ ▸ hs, he⟩ (lowerImportFromNames_graph n tmp as rest hr)

/-- `tmp := __import__(m, globals(), locals(), [names], level)` -/
def importFromHead (tmp : String) (m : Option String) (names : List Alias) (level : Nat) : Expr :=
  .namedExpr tmp (.call (.name "__import__")
    [Expr.str (m.getD ""), .call (.name "globals") [] [], .call (.name "locals") [] [],
     .list (names.map fun a => Expr.str a.name), .const (.int level)] [])

theorem lowerImportFrom_ok {n : Nsp} {m : Option String} {names : List Alias} {level : Nat} {st st' : St} {es : List Expr}
    (h : lowerImportFrom n m names level st = .ok (es, st')) :
    ∃ rest, lowerImportFromNames n (st.fresh "mod").1 names = .ok rest ∧
      es = importFromHead (st.fresh "mod").1 m names level :: rest ∧ st' = (st.fresh "mod").2 := by
  unfold lowerImportFrom at h
  obtain ⟨rest, hr, h⟩ := bind_ok h
  cases pure_ok h
  exact ⟨rest, hr, rfl, rfl⟩

/-! ### namespaces -/

theorem findChild_kind {n : Nsp} {name : String} {lineno : Nat} {k : ScopeKind} {c : Nsp}
    (h : findChild n name lineno k = .ok c) : c.kind = k := by
  unfold findChild at h
  split at h
  · cases h
  · split at h
    · rename_i hk
      cases h
      simpa using hk
    · cases h

theorem generateNsp_kind {root : SymScope} {sup : Supply} {g : Nsp} {sup' : Supply}
    (h : generateNsp root sup = .ok (g, sup')) : g.kind = .module := by
  unfold generateNsp at h
  obtain ⟨⟨kids, a, b, sup''⟩, _, h⟩ := bind_ok h
  cases pure_ok h
  rfl

/-! ### statements and blocks -/

/-- the store of the decorated class, if the class has decorators -/
inductive Redecorated (n : Nsp) (name : String) (self : Expr) : List Expr → List Expr → Prop
  | none : Redecorated n name self [] []
  | some {ds ds' e} : transfList n [] ds = .ok ds' → n.getAssign name (decorate ds' self) = .ok e → ds.isEmpty = false →
      Redecorated n name self ds [e]

/- The premises of a constructor come in this order, and the clients bind them in it: the sub-lowerings in
   source order (blocks, targets, class keywords, the decorated store); then the equations of the expression
   transformer, in source order; then the questions to the namespace; then side conditions.  In an induction
   the hypotheses for the blocks follow, in the order of the blocks.  The implicit arguments (for `@ctor …`):
   the context, the fields of the statement, the state before, then what the premises produce, premise by premise. -/
mutual
  inductive Lowers : Ctx → Stmt → St → List Expr → St → Prop
    | expr {cx v st v'} : transf cx.nsp [] v = .ok v' → Lowers cx (.expr v) st [v'] st
    | pass_ {cx st} : Lowers cx .pass_ st [Expr.ellipsis] st
    | global_ {cx ns st} : Lowers cx (.global_ ns) st [] st
    | nonlocal_ {cx ns st} : Lowers cx (.nonlocal_ ns) st [] st
    | break_ {cx st l} : cx.loops.getLast? = some l → Lowers cx .break_ st (breakT l) st
    | continue_ {cx st l} : cx.loops.getLast? = some l → Lowers cx .continue_ st (continueT l) st
    | return_ {cx v st v'} : transfOpt cx.nsp [] v = .ok v' → (cx.nsp.kind != .function) = false →
        Lowers cx (.return_ v) st (returnT cx v') st
    | if_ {cx t b o st b' st1 o' st2 t'} : LowersB cx b st b' st1 → LowersB cx o st1 o' st2 →
        transf cx.nsp [] t = .ok t' → Lowers cx (.if_ t b o) st (ifT cx.cfg t' b' o') st2
    | while_ {cx t b o st b' st1 o' st2 t'} :
        LowersB (cx.push (newLoop true st b).1) b { (newLoop true st b).2 with useItertools := true } b' st1 →
        LowersB cx o st1 o' st2 → transf cx.nsp [] t = .ok t' →
        Lowers cx (.while_ t b o) st (whileT cx.cfg (newLoop true st b).1 (hasBreakL b) t' b' o') st2
    | for_ {cx tg it b o st b' st1 o' st2 asg st3 itr} :
        LowersB (cx.push (newLoop false st b).1) b (newLoop false st b).2 b' st1 → LowersB cx o st1 o' st2 →
        Assigns cx.nsp false tg (.name (st2.fresh "item").1) (st2.fresh "item").2 asg st3 →
        transf cx.nsp [] it = .ok itr →
        Lowers cx (.for_ tg it b o) st
          (forT cx.cfg (newLoop false st b).1 (!anyIntL b && o.isEmpty) (hasBreakL b) (st2.fresh "item").1 itr asg b' o')
          (forSt (!anyIntL b && o.isEmpty) (hasBreakL b) st3)
    | assignTmp {cx ts value st r st' v} :
        AssignsElts cx.nsp false (fun _ _ _ => .name (st.fresh "assign").1) 0 false ts (st.fresh "assign").2 r st' →
        transf cx.nsp [] value = .ok v → needsTmp ts = true →
        Lowers cx (.assign ts value) st (.namedExpr (st.fresh "assign").1 v :: r) st'
    | assign {cx ts value st es st' v} : AssignsElts cx.nsp false (fun _ _ _ => v) 0 false ts st es st' →
        transf cx.nsp [] value = .ok v → needsTmp ts = false → Lowers cx (.assign ts value) st es st'
    | annAssign_ {cx tg ann st} : Lowers cx (.annAssign tg ann none) st [] st
    -- not syntax-directed: an annotated assignment with a value is lowered as the plain assignment to its one target,
    -- so a motive that looks at the statement has to agree on the two
    | annAssign {cx tg ann v st es st'} : Lowers cx (.assign [tg] v) st es st' →
        Lowers cx (.annAssign tg ann (some v)) st es st'
    | augAssign {cx tg op value st v es st'} : AugAssigns cx.nsp op v st tg es st' →
        transf cx.nsp [] value = .ok v → Lowers cx (.augAssign tg op value) st es st'
    | import_ {cx names st es} : Each (fun a e => cx.nsp.getAssign (importPlan a).1 (importPlan a).2 = .ok e) names es →
        Lowers cx (.import_ names) st es { st with useImportlib := true }
    | importFrom {cx m names level st rest} :
        Each (fun a e => (a.name == "*") = false ∧
          cx.nsp.getAssign (a.asname.getD a.name) (.attribute (.name (st.fresh "mod").1) a.name) = .ok e) names rest →
        Lowers cx (.importFrom m names level) st (importFromHead (st.fresh "mod").1 m names level :: rest) (st.fresh "mod").2
    | functionDef {cx name po as va ko kd kw ds body decos lineno st b' st' ds' kd' decos' inner e} :
        LowersB ⟨cx.cfg, inner, [], guardsInL .function body⟩ body st b' st' →
        transfList cx.nsp [] ds = .ok ds' → transfOptList cx.nsp [] kd = .ok kd' → transfList cx.nsp [] decos = .ok decos' →
        findChild cx.nsp name lineno .function = .ok inner →
        cx.nsp.getAssign name (hookIf inner name (decorate decos'
          (defLambda cx.cfg inner (guardsInL .function body) (.mk po as va ko kd' kw ds') b'))) = .ok e →
        Lowers cx (.functionDef name (.mk po as va ko kd kw ds) body decos lineno) st [e] st'
    | classDef {cx name bases kws body decos lineno st b' st1 metaE kws' tail bases' inner create self} :
        LowersB ⟨cx.cfg, inner, [], false⟩ body st b' st1 → ClassKws cx.nsp kws metaE kws' →
        Redecorated cx.nsp name self decos tail → transfList cx.nsp [] bases = .ok bases' →
        findChild cx.nsp name lineno .class_ = .ok inner →
        cx.nsp.getAssign name (classCreate name metaE bases' kws') = .ok create → cx.nsp.getLoad [] name = .ok self →
        Lowers cx (.classDef name bases kws body decos lineno) st
          ([create, classLoad inner (st1.fresh "loader").1 self b', classFill (st1.fresh "loader").1 self] ++ tail)
          (st1.fresh "loader").2
  inductive LowersB : Ctx → List Stmt → St → List Expr → St → Prop
    | nil {cx st} : LowersB cx [] st [] st
    | last {cx s ss st es st'} : Lowers cx s st es st' → (s.isDirect || ss.isEmpty) = true → LowersB cx (s :: ss) st es st'
    | guard {cx s ss st es st1 rest st2} : Lowers cx s st es st1 → LowersB cx ss st1 rest st2 →
        (s.isDirect || ss.isEmpty) = false → mayInt cx.flowKind s = true →
        LowersB cx (s :: ss) st (es ++ [guardE cx.cfg (.name cx.flowFlag) rest]) st2
    | seq {cx s ss st es st1 rest st2} : Lowers cx s st es st1 → LowersB cx ss st1 rest st2 →
        (s.isDirect || ss.isEmpty) = false → mayInt cx.flowKind s = false → LowersB cx (s :: ss) st (es ++ rest) st2
end

theorem assignTargets_single (n : Nsp) (v t : Expr) (st : St) :
    assignTargets n v [t] st = assignAuto n false t v st := by
  simp only [assignTargets]
  cases assignAuto n false t v st with
  | error e => rfl
  | ok r => simp [bind, Except.bind, pure, Except.pure]

theorem lowerStmt_annAssign (cx : Ctx) (tg ann v : Expr) (st : St) :
    lowerStmt cx (.annAssign tg ann (some v)) st = lowerStmt cx (.assign [tg] v) st := by
  simp only [lowerStmt, assignTargets_single]
  congr 1; funext v'
  cases tg <;> rfl

theorem lowerStmt_assign_graph {cx : Ctx} {ts : List Expr} {value : Expr} {st st' : St} {es : List Expr}
    (h : lowerStmt cx (.assign ts value) st = .ok (es, st')) : Lowers cx (.assign ts value) st es st' := by
  simp only [lowerStmt] at h
  obtain ⟨v, hv, h⟩ := bind_ok h
  rcases ite_ok h with ⟨hc, h⟩ | ⟨hc, h⟩
  · obtain ⟨⟨r, st1⟩, hr, h⟩ := bind_ok h
    cases pure_ok h
    exact .assignTmp (assignTargets_graph _ _ _ 0 _ _ _ hr) hv hc
  · exact .assign (assignTargets_graph _ _ _ 0 _ _ _ h) hv (Bool.not_eq_true _ ▸ hc)

/- By the recursor of the nested type `Stmt` (motives: a statement, a block, the bodies of an `other`
   statement): as a pair of mutually recursive theorems the same proof is several times dearer to check. -/
theorem lowerBlock_graph (ss : List Stmt) : ∀ (cx : Ctx) (st : St) (es : List Expr) (st' : St),
    lowerBlock cx ss st = .ok (es, st') → LowersB cx ss st es st' := by
  induction ss using Stmt.rec_1
    (motive_1 := fun s => ∀ cx st es st', lowerStmt cx s st = .ok (es, st') → Lowers cx s st es st')
    (motive_3 := fun _ => True) with
  | expr v cx st es st' h =>
      simp only [lowerStmt, bind_eq_ok, pure_eq_ok, Prod.mk.injEq] at h
      obtain ⟨v', hv, rfl, rfl⟩ := h
      exact .expr hv
  | pass_ cx st es st' h | global_ _ cx st es st' h | nonlocal_ _ cx st es st' h => cases h; constructor
  | break_ cx st es st' h | continue_ cx st es st' h =>
      simp only [lowerStmt] at h
      split at h
      · cases h
      · rename_i l hl; cases h; constructor; exact hl
  | return_ v cx st es st' h =>
      simp only [lowerStmt] at h
      split at h
      · cases h
      · rename_i hk
        cases v with
        | none => cases h; exact .return_ (show transfOpt cx.nsp [] none = .ok none from rfl) (Bool.not_eq_true _ ▸ hk)
        | some e =>
          simp only [bind_eq_ok, pure_eq_ok, Prod.mk.injEq] at h
          obtain ⟨e', he, _, rfl, rfl, rfl⟩ := h
          exact .return_ (v' := some e') (by simp only [transfOpt, he]; rfl) (Bool.not_eq_true _ ▸ hk)
  | if_ t b o ihb iho cx st es st' h =>
      simp only [lowerStmt, bind_eq_ok, Prod.exists] at h
      obtain ⟨b', st1, hb, o', st2, ho, t', ht, h⟩ := h
      have : (ifT cx.cfg t' b' o', st2) = (es, st') := by
        unfold ifT
        generalize cx.cfg.ifStyle = sty at h ⊢
        cases sty
        · exact pure_ok h
        · rcases ite_ok h with ⟨hc, h⟩ | ⟨hc, h⟩
          · rw [if_pos hc]; exact pure_ok h
          · rw [if_neg hc]; exact pure_ok h
      cases this
      exact .if_ (ihb cx st b' st1 hb) (iho cx st1 o' _ ho) ht
  | while_ t b o ihb iho cx st es st' h =>
      simp only [lowerStmt, bind_eq_ok, pure_eq_ok, Prod.exists, Prod.mk.injEq] at h
      obtain ⟨b', st1, hb, o', st2, ho, t', ht, rfl, rfl⟩ := h
      exact .while_ (ihb _ _ b' st1 hb) (iho cx st1 o' _ ho) ht
  | for_ tg it b o ihb iho cx st es st' h =>
      simp only [lowerStmt, bind_eq_ok, Prod.exists] at h
      obtain ⟨b', st1, hb, o', st2, ho, asg, st3, ha, itr, hi, h⟩ := h
      have : (forT cx.cfg (newLoop false st b).1 (!anyIntL b && o.isEmpty) (hasBreakL b) (st2.fresh "item").1 itr asg b' o',
          forSt (!anyIntL b && o.isEmpty) (hasBreakL b) st3) = (es, st') := by
        unfold forT forSt
        rcases ite_ok h with ⟨hc, h⟩ | ⟨hc, h⟩
        · rw [if_pos hc, if_pos hc]; exact pure_ok h
        · rw [if_neg hc, if_neg hc]; exact pure_ok h
      cases this
      exact .for_ (ihb _ _ b' st1 hb) (iho cx st1 o' st2 ho) (assignAuto_graph _ _ _ _ _ _ _ ha) hi
  | assign ts value cx st es st' h => exact lowerStmt_assign_graph h
  | annAssign tg ann v cx st es st' h =>
      cases v with
      | none => cases h; exact .annAssign_
      | some v =>
        rw [lowerStmt_annAssign] at h
        exact .annAssign (lowerStmt_assign_graph h)
  | augAssign tg op value cx st es st' h =>
      obtain ⟨v, hv, ha⟩ := lowerAugAssign_graph h
      exact .augAssign ha hv
  | import_ names cx st es st' h =>
      simp only [lowerStmt, bind_eq_ok, pure_eq_ok, Prod.mk.injEq] at h
      obtain ⟨r, hr, rfl, rfl⟩ := h
      exact .import_ (lowerImport_graph _ _ _ hr)
  | importFrom m names level cx st es st' h =>
      obtain ⟨rest, hr, rfl, rfl⟩ := lowerImportFrom_ok h
      exact .importFrom (lowerImportFromNames_graph _ _ _ _ hr)
  | functionDef name args body decos lineno ihb cx st es st' h =>
      simp only [lowerStmt, bind_eq_ok, pure_eq_ok, Prod.exists, Prod.mk.injEq] at h
      obtain ⟨inner, hin, args', ha, b', st1, hb, lam, hl, e, he, rfl, rfl⟩ := h
      obtain ⟨po, as, va, ko, kd, kw, ds⟩ := args
      obtain ⟨ds', kd', hds, hkd, rfl⟩ := lowerFunctionHead_ok ha
      obtain ⟨decos', hdec, rfl⟩ := applyDecorators_ok _ _ _ _ hl
      exact .functionDef (ihb _ st b' _ hb) hds hkd hdec hin he
  | classDef name bases kws body decos lineno ihb cx st es st' h =>
      simp only [lowerStmt, bind_eq_ok, Prod.exists] at h
      obtain ⟨inner, hin, b', st1, hb, bases', hbs, metaE, kws', hk, create, hc, self, hs, self2, hs2, h⟩ := h
      cases hs.symm.trans hs2
      have hb := ihb _ st b' st1 hb
      have hk := (classKeywords_graph _ _ _ _).mp hk
      rcases ite_ok h with ⟨hd, h⟩ | ⟨hd, h⟩
      · cases pure_ok h
        cases decos with
        | nil => exact .classDef hb hk .none hbs hin hc hs
        | cons _ _ => cases hd
      · simp only [bind_eq_ok, pure_eq_ok, Prod.mk.injEq] at h
        obtain ⟨self3, hs3, d, hd', r, hr, rfl, rfl⟩ := h
        cases hs.symm.trans hs3
        obtain ⟨ds', hds, rfl⟩ := applyDecorators_ok _ _ _ _ hd'
        exact .classDef hb hk (.some hds hr (Bool.not_eq_true _ ▸ hd)) hbs hin hc hs
  | other _ _ _ _ cx st es st' h => cases h
  | nil => intro cx st es st' h; cases h; exact .nil
  | cons s ss ihs ih =>
      intro cx st es st' h
      simp only [lowerBlock, bind_eq_ok, Prod.exists] at h
      obtain ⟨a, st1, ha, h⟩ := h
      have ha := ihs cx st a st1 ha
      rcases ite_ok h with ⟨hd, h⟩ | ⟨hd, h⟩
      · cases pure_ok h
        exact .last ha hd
      · rcases ite_ok h with ⟨hm, h⟩ | ⟨hm, h⟩
        all_goals
          simp only [bind_eq_ok, pure_eq_ok, Prod.exists, Prod.mk.injEq] at h
          obtain ⟨rest, st2, hr, rfl, rfl⟩ := h
        · exact .guard ha (ih cx st1 rest _ hr) (Bool.not_eq_true _ ▸ hd) hm
        · exact .seq ha (ih cx st1 rest _ hr) (Bool.not_eq_true _ ▸ hd) (Bool.not_eq_true _ ▸ hm)
  | _ => trivial

theorem lowerStmt_graph (s : Stmt) (cx : Ctx) (st : St) (es : List Expr) (st' : St)
    (h : lowerStmt cx s st = .ok (es, st')) : Lowers cx s st es st' := by
  have : lowerBlock cx [s] st = .ok (es, st') := by
    simp only [lowerBlock, h, List.isEmpty_nil, Bool.or_true, if_true]; rfl
  cases lowerBlock_graph [s] cx st es st' this with
  | last h _ => exact h
  | guard _ _ hd | seq _ _ hd => simp only [List.isEmpty_nil, Bool.or_true, Bool.true_eq_false] at hd

/-! ### the whole program -/

/-- At module level there is nothing to cut and nothing to guard - a direct break / continue / return is refused
    there, and no statement can interrupt - so the loop over the module's statements is the block lowering. -/
theorem goModule_eq_lowerBlock {cx : Ctx} (hl : cx.loops = []) (hk : (cx.nsp.kind != .function) = true) :
    ∀ (ss : List Stmt) (st : St), lowerFull.goModule cx ss st = lowerBlock cx ss st
  | [], st => by simp only [lowerFull.goModule, lowerBlock]
  | s :: ss, st => by
      simp only [lowerFull.goModule, lowerBlock, goModule_eq_lowerBlock hl hk ss]
      cases h : lowerStmt cx s st with
      | error e => rfl
      | ok r =>
        have hd : s.isDirect = false := by
          cases s <;> first | rfl | (simp only [lowerStmt, hl, hk, List.getLast?_nil, if_true] at h; cases h)
        have hm : mayInt cx.flowKind s = false := by
          simp only [Ctx.flowKind, hl, List.isEmpty_nil, Bool.not_true, Bool.false_eq_true, if_false]
          rw [if_neg (by simpa using hk)]; rfl
        cases ss with
        | nil => simp [bind, Except.bind, lowerBlock, pure, Except.pure]
        | cons s2 ss => simp only [bind, Except.bind, hd, hm, List.isEmpty_cons, Bool.or_self, Bool.false_eq_true, if_false]

theorem lowerFull_ok {cfg : Cfg} {root : SymScope} {body : List Stmt} {e : Expr} (h : lowerFull cfg root body = .ok e) :
    ∃ g sup b st, generateNsp root {} = .ok (g, sup) ∧
      lowerFull.goModule ⟨cfg, g, [], false⟩ body { sup := sup } = .ok (b, st) ∧ e = wrapExprs cfg (prelude st b) := by
  unfold lowerFull at h
  obtain ⟨⟨g, sup⟩, hg, h⟩ := bind_ok h
  obtain ⟨⟨b, st⟩, hb, h⟩ := bind_ok h
  exact ⟨g, sup, b, st, hg, hb, (pure_ok h).symm⟩

/-- the converted program is the wrapper around the prelude and the module's statements lowered as a block -/
theorem lowerFull_graph {cfg : Cfg} {root : SymScope} {body : List Stmt} {e : Expr} (h : lowerFull cfg root body = .ok e) :
    ∃ g sup b st, generateNsp root {} = .ok (g, sup) ∧ LowersB ⟨cfg, g, [], false⟩ body { sup := sup } b st ∧
      e = wrapExprs cfg (prelude st b) := by
  obtain ⟨g, sup, b, st, hg, hb, rfl⟩ := lowerFull_ok h
  rw [goModule_eq_lowerBlock rfl (by simp [generateNsp_kind hg])] at hb
  exact ⟨g, sup, b, st, hg, lowerBlock_graph _ _ _ _ _ hb, rfl⟩

end OlVerif
