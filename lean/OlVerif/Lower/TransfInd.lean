/-
  The `do` blocks of the expression transformer are walked here: a property of all its results is
  an instance of `TransfCases`, whose fields do not mention the error monad.
-/
import OlVerif.Lower.Transf
import OlVerif.Lower.Except
import OlVerif.Lower.NspLemmas

namespace OlVerif

/-- Induction on a successful run of the expression transformer: one field per equation of `transf` and its
    companions that can succeed, saying that the property passes from the results of the recursive calls to the
    result of the equation.  A client proves `theorem … : TransfCases n P PL … where binOp hx hy := …` and reads
    its theorems off the projections `.expr`, `.exprs`, `.opt`, … below. -/
structure TransfCases (n : Nsp)
    (P : List String → Expr → Expr → Prop) (PL : List String → List Expr → List Expr → Prop)
    (PO : List String → Option Expr → Option Expr → Prop)
    (POL : List String → List (Option Expr) → List (Option Expr) → Prop)
    (PD : List String → List DictItem → List DictItem → Prop)
    (PK : List String → List Keyword → List Keyword → Prop)
    (PG : List String → List String → List Comp → List Comp → Prop)
    (PT : List String → Expr → Expr → Prop) (PTs : List String → List Expr → List Expr → Prop) : Prop where
  name {b id e'} : n.getLoad b id = .ok e' → P b (.name id) e'
  const {b c} : P b (.const c) (.const c)
  /-- the walrus is kept: inside a lambda, or where `get_assign` spells the store as a walrus -/
  walrus {b t v v'} : P b v v' → P b (.namedExpr t v) (.namedExpr t v')
  /-- the store is a call `r`: the value of the expression is read back, `[r, l][-1]` -/
  walrusStore {b t v v' r l} : P b v v' → n.getAssign t v' = .ok r → (∀ t' w, r ≠ .namedExpr t' w) →
    n.getLoad b t = .ok l → P b (.namedExpr t v) (.subscript (.list [r, l]) Expr.neg1)
  lambda {b po as va ko kd kw ds body ds' kd' body'} : PL b ds ds' → POL b kd kd' →
    P (lamMark :: (Arguments.paramNames (.mk po as va ko kd kw ds) ++ walrusNames body ++ b)) body body' →
    P b (.lambda (.mk po as va ko kd kw ds) body) (.lambda (.mk po as va ko kd' kw ds') body')
  listComp {b elt gens names elt' gens'} : compsTargetNames gens = .ok names →
    P (compMark :: (names ++ b)) elt elt' → PG b (compMark :: (names ++ b)) gens gens' →
    P b (.listComp elt gens) (.listComp elt' gens')
  setComp {b elt gens names elt' gens'} : compsTargetNames gens = .ok names →
    P (compMark :: (names ++ b)) elt elt' → PG b (compMark :: (names ++ b)) gens gens' →
    P b (.setComp elt gens) (.setComp elt' gens')
  generatorExp {b elt gens names elt' gens'} : compsTargetNames gens = .ok names →
    P (compMark :: (names ++ b)) elt elt' → PG b (compMark :: (names ++ b)) gens gens' →
    P b (.generatorExp elt gens) (.generatorExp elt' gens')
  dictComp {b k v gens names k' v' gens'} : compsTargetNames gens = .ok names →
    P (compMark :: (names ++ b)) k k' → P (compMark :: (names ++ b)) v v' →
    PG b (compMark :: (names ++ b)) gens gens' → P b (.dictComp k v gens) (.dictComp k' v' gens')
  joinedStr {b vs vs'} : PL b vs vs' → P b (.joinedStr vs) (.joinedStr vs')
  formattedValue {b v c s v' s'} : P b v v' → PO b s s' → P b (.formattedValue v c s) (.formattedValue v' c s')
  list {b es es'} : PL b es es' → P b (.list es) (.list es')
  tuple {b es es'} : PL b es es' → P b (.tuple es) (.tuple es')
  set {b es es'} : PL b es es' → P b (.set es) (.set es')
  dict {b its its'} : PD b its its' → P b (.dict its) (.dict its')
  starred {b v v'} : P b v v' → P b (.starred v) (.starred v')
  attr {b v a v'} : P b v v' → P b (.attribute v a) (.attribute v' a)
  subscript {b v s v' s'} : P b v v' → P b s s' → P b (.subscript v s) (.subscript v' s')
  slice {b x y z x' y' z'} : PO b x x' → PO b y y' → PO b z z' → P b (.slice x y z) (.slice x' y' z')
  call {b f as ks f' as' ks'} : P b f f' → PL b as as' → PK b ks ks' → P b (.call f as ks) (.call f' as' ks')
  binOp {b x op y x' y'} : P b x x' → P b y y' → P b (.binOp x op y) (.binOp x' op y')
  boolOp {b op vs vs'} : PL b vs vs' → P b (.boolOp op vs) (.boolOp op vs')
  unaryOp {b op v v'} : P b v v' → P b (.unaryOp op v) (.unaryOp op v')
  compare {b l ops cs l' cs'} : P b l l' → PL b cs cs' → P b (.compare l ops cs) (.compare l' ops cs')
  ifExp {b t x y t' x' y'} : P b t t' → P b x x' → P b y y' → P b (.ifExp t x y) (.ifExp t' x' y')
  listNil {b} : PL b [] []
  listCons {b e es e' es'} : P b e e' → PL b es es' → PL b (e :: es) (e' :: es')
  optNone {b} : PO b none none
  optSome {b e e'} : P b e e' → PO b (some e) (some e')
  optListNil {b} : POL b [] []
  optListNone {b es es'} : POL b es es' → POL b (none :: es) (none :: es')
  optListSome {b e es e' es'} : P b e e' → POL b es es' → POL b (some e :: es) (some e' :: es')
  itemsNil {b} : PD b [] []
  itemsStar {b v its v' its'} : P b v v' → PD b its its' → PD b (.mk none v :: its) (.mk none v' :: its')
  itemsKey {b k v its k' v' its'} : P b k k' → P b v v' → PD b its its' →
    PD b (.mk (some k) v :: its) (.mk (some k') v' :: its')
  kwNil {b} : PK b [] []
  kwCons {b a v ks v' ks'} : P b v v' → PK b ks ks' → PK b (.mk a v :: ks) (.mk a v' :: ks')
  compsNil {f b} : PG f b [] []
  /-- the first iterable is transformed with the names bound outside, `f` -/
  compsCons {f b t i ifs a gs t' i' ifs' gs'} : PT b t t' → P f i i' → PL b ifs ifs' → PG b b gs gs' →
    PG f b (.mk t i ifs a :: gs) (.mk t' i' ifs' a :: gs')
  tTuple {b es es'} : PTs b es es' → PT b (.tuple es) (.tuple es')
  tList {b es es'} : PTs b es es' → PT b (.list es) (.list es')
  tStarred {b v v'} : PT b v v' → PT b (.starred v) (.starred v')
  tAttribute {b v a v'} : P b v v' → PT b (.attribute v a) (.attribute v' a)
  tSubscript {b v s v' s'} : P b v v' → P b s s' → PT b (.subscript v s) (.subscript v' s')
  /-- the catch-all `| e => .ok e` of `transfTarget` (a name, or a target of no known kind): the five hypotheses say
      that no equation before it applies -/
  tOther {b e} : (∀ es, e = .tuple es → False) → (∀ es, e = .list es → False) → (∀ v, e = .starred v → False) →
    (∀ v a, e = .attribute v a → False) → (∀ v s, e = .subscript v s → False) → PT b e e
  tsNil {b} : PTs b [] []
  tsCons {b e es e' es'} : PT b e e' → PTs b es es' → PTs b (e :: es) (e' :: es')

namespace TransfCases

variable {n : Nsp} {P : List String → Expr → Expr → Prop} {PL : List String → List Expr → List Expr → Prop}
  {PO : List String → Option Expr → Option Expr → Prop}
  {POL : List String → List (Option Expr) → List (Option Expr) → Prop}
  {PD : List String → List DictItem → List DictItem → Prop}
  {PK : List String → List Keyword → List Keyword → Prop}
  {PG : List String → List String → List Comp → List Comp → Prop}
  {PT : List String → Expr → Expr → Prop} {PTs : List String → List Expr → List Expr → Prop}

mutual
  theorem expr (H : TransfCases n P PL PO POL PD PK PG PT PTs) :
      ∀ {b : List String} {e e' : Expr}, transf n b e = .ok e' → P b e e'
    | b, .name id, e', h => by simp only [transf] at h; exact H.name h
    | b, .const c, e', h => by simp only [transf] at h; cases h; exact H.const
    | b, .namedExpr t v, e', h => by
        simp only [transf] at h
        obtain ⟨v', hv, h⟩ := bind_ok h
        have ih := expr H hv
        split at h
        · cases pure_ok h; exact H.walrus ih
        obtain ⟨r, hr, h⟩ := bind_ok h
        split at h
        · cases pure_ok h
          -- this arm of the match says the store `r` is a walrus: of the three spellings only `t := v'` is one
          rcases Nsp.getAssign_cases hr with hr' | hr' | ⟨d, hr'⟩ <;> cases hr'
          exact H.walrus ih
        · rename_i hne
          obtain ⟨l, hl, h⟩ := bind_ok h
          cases pure_ok h
          exact H.walrusStore ih hr hne hl
    | b, .yield_ _, e', h | b, .yieldFrom _, e', h | b, .await _, e', h => by simp only [transf] at h; cases h
    | b, .lambda (.mk po as va ko kd kw ds) body, e', h => by
        simp only [transf, bind_eq_ok, pure_eq_ok] at h
        obtain ⟨ds', hds, kd', hkd, body', hb, rfl⟩ := h
        exact H.lambda (exprs H hds) (opts H hkd) (expr H hb)
    | b, .listComp elt gens, e', h => by
        simp only [transf, bind_eq_ok, pure_eq_ok] at h
        obtain ⟨names, hn, elt', he, gens', hg, rfl⟩ := h
        exact H.listComp hn (expr H he) (comps H hg)
    | b, .setComp elt gens, e', h => by
        simp only [transf, bind_eq_ok, pure_eq_ok] at h
        obtain ⟨names, hn, elt', he, gens', hg, rfl⟩ := h
        exact H.setComp hn (expr H he) (comps H hg)
    | b, .generatorExp elt gens, e', h => by
        simp only [transf, bind_eq_ok, pure_eq_ok] at h
        obtain ⟨names, hn, elt', he, gens', hg, rfl⟩ := h
        exact H.generatorExp hn (expr H he) (comps H hg)
    | b, .dictComp k v gens, e', h => by
        simp only [transf, bind_eq_ok, pure_eq_ok] at h
        obtain ⟨names, hn, k', hk, v', hv, gens', hg, rfl⟩ := h
        exact H.dictComp hn (expr H hk) (expr H hv) (comps H hg)
    | b, .joinedStr vs, e', h => by
        simp only [transf, bind_eq_ok, pure_eq_ok] at h
        obtain ⟨vs', hvs, rfl⟩ := h
        exact H.joinedStr (exprs H hvs)
    | b, .formattedValue v c s, e', h => by
        simp only [transf, bind_eq_ok, pure_eq_ok] at h
        obtain ⟨v', hv, s', hs, rfl⟩ := h
        exact H.formattedValue (expr H hv) (opt H hs)
    | b, .list es, e', h => by
        simp only [transf, bind_eq_ok, pure_eq_ok] at h
        obtain ⟨es', hes, rfl⟩ := h
        exact H.list (exprs H hes)
    | b, .tuple es, e', h => by
        simp only [transf, bind_eq_ok, pure_eq_ok] at h
        obtain ⟨es', hes, rfl⟩ := h
        exact H.tuple (exprs H hes)
    | b, .set es, e', h => by
        simp only [transf, bind_eq_ok, pure_eq_ok] at h
        obtain ⟨es', hes, rfl⟩ := h
        exact H.set (exprs H hes)
    | b, .dict its, e', h => by
        simp only [transf, bind_eq_ok, pure_eq_ok] at h
        obtain ⟨its', hi, rfl⟩ := h
        exact H.dict (items H hi)
    | b, .starred v, e', h => by
        simp only [transf, bind_eq_ok, pure_eq_ok] at h
        obtain ⟨v', hv, rfl⟩ := h
        exact H.starred (expr H hv)
    | b, .attribute v a, e', h => by
        simp only [transf, bind_eq_ok, pure_eq_ok] at h
        obtain ⟨v', hv, rfl⟩ := h
        exact H.attr (expr H hv)
    | b, .subscript v s, e', h => by
        simp only [transf, bind_eq_ok, pure_eq_ok] at h
        obtain ⟨v', hv, s', hs, rfl⟩ := h
        exact H.subscript (expr H hv) (expr H hs)
    | b, .slice x y z, e', h => by
        simp only [transf, bind_eq_ok, pure_eq_ok] at h
        obtain ⟨x', hx, y', hy, z', hz, rfl⟩ := h
        exact H.slice (opt H hx) (opt H hy) (opt H hz)
    | b, .call f as ks, e', h => by
        simp only [transf, bind_eq_ok, pure_eq_ok] at h
        obtain ⟨f', hf, as', has, ks', hks, rfl⟩ := h
        exact H.call (expr H hf) (exprs H has) (keywords H hks)
    | b, .binOp x op y, e', h => by
        simp only [transf, bind_eq_ok, pure_eq_ok] at h
        obtain ⟨x', hx, y', hy, rfl⟩ := h
        exact H.binOp (expr H hx) (expr H hy)
    | b, .boolOp op vs, e', h => by
        simp only [transf, bind_eq_ok, pure_eq_ok] at h
        obtain ⟨vs', hvs, rfl⟩ := h
        exact H.boolOp (exprs H hvs)
    | b, .unaryOp op v, e', h => by
        simp only [transf, bind_eq_ok, pure_eq_ok] at h
        obtain ⟨v', hv, rfl⟩ := h
        exact H.unaryOp (expr H hv)
    | b, .compare l ops cs, e', h => by
        simp only [transf, bind_eq_ok, pure_eq_ok] at h
        obtain ⟨l', hl, cs', hcs, rfl⟩ := h
        exact H.compare (expr H hl) (exprs H hcs)
    | b, .ifExp t x y, e', h => by
        simp only [transf, bind_eq_ok, pure_eq_ok] at h
        obtain ⟨t', ht, x', hx, y', hy, rfl⟩ := h
        exact H.ifExp (expr H ht) (expr H hx) (expr H hy)
  termination_by structural _ x => x

  theorem exprs (H : TransfCases n P PL PO POL PD PK PG PT PTs) :
      ∀ {b : List String} {es es' : List Expr}, transfList n b es = .ok es' → PL b es es'
    | b, [], es', h => by simp only [transfList] at h; cases h; exact H.listNil
    | b, e :: es, es', h => by
        simp only [transfList, bind_eq_ok, pure_eq_ok] at h
        obtain ⟨e', he, es'', hes, rfl⟩ := h
        exact H.listCons (expr H he) (exprs H hes)
  termination_by structural _ x => x

  theorem opt (H : TransfCases n P PL PO POL PD PK PG PT PTs) :
      ∀ {b : List String} {o o' : Option Expr}, transfOpt n b o = .ok o' → PO b o o'
    | b, none, o', h => by simp only [transfOpt] at h; cases h; exact H.optNone
    | b, some e, o', h => by
        simp only [transfOpt, bind_eq_ok, pure_eq_ok] at h
        obtain ⟨e', he, rfl⟩ := h
        exact H.optSome (expr H he)
  termination_by structural _ x => x

  theorem opts (H : TransfCases n P PL PO POL PD PK PG PT PTs) :
      ∀ {b : List String} {es es' : List (Option Expr)}, transfOptList n b es = .ok es' → POL b es es'
    | b, [], es', h => by simp only [transfOptList] at h; cases h; exact H.optListNil
    | b, none :: es, es', h => by
        simp only [transfOptList, bind_eq_ok, pure_eq_ok] at h
        obtain ⟨es'', hes, rfl⟩ := h
        exact H.optListNone (opts H hes)
    | b, some e :: es, es', h => by
        simp only [transfOptList, bind_eq_ok, pure_eq_ok] at h
        obtain ⟨e', he, es'', hes, rfl⟩ := h
        exact H.optListSome (expr H he) (opts H hes)
  termination_by structural _ x => x

  theorem items (H : TransfCases n P PL PO POL PD PK PG PT PTs) :
      ∀ {b : List String} {its its' : List DictItem}, transfItems n b its = .ok its' → PD b its its'
    | b, [], its', h => by simp only [transfItems] at h; cases h; exact H.itemsNil
    | b, .mk none v :: its, its', h => by
        simp only [transfItems, bind_eq_ok, pure_eq_ok] at h
        obtain ⟨v', hv, its'', hi, rfl⟩ := h
        exact H.itemsStar (expr H hv) (items H hi)
    | b, .mk (some k) v :: its, its', h => by
        simp only [transfItems, bind_eq_ok, pure_eq_ok] at h
        obtain ⟨k', hk, v', hv, its'', hi, rfl⟩ := h
        exact H.itemsKey (expr H hk) (expr H hv) (items H hi)
  termination_by structural _ x => x

  theorem keywords (H : TransfCases n P PL PO POL PD PK PG PT PTs) :
      ∀ {b : List String} {ks ks' : List Keyword}, transfKeywords n b ks = .ok ks' → PK b ks ks'
    | b, [], ks', h => by simp only [transfKeywords] at h; cases h; exact H.kwNil
    | b, .mk a v :: ks, ks', h => by
        simp only [transfKeywords, bind_eq_ok, pure_eq_ok] at h
        obtain ⟨v', hv, ks'', hk, rfl⟩ := h
        exact H.kwCons (expr H hv) (keywords H hk)
  termination_by structural _ x => x

  theorem comps (H : TransfCases n P PL PO POL PD PK PG PT PTs) :
      ∀ {f b : List String} {gs gs' : List Comp}, transfComps n f b gs = .ok gs' → PG f b gs gs'
    | f, b, [], gs', h => by simp only [transfComps] at h; cases h; exact H.compsNil
    | f, b, .mk t i ifs a :: gs, gs', h => by
        simp only [transfComps, bind_eq_ok, pure_eq_ok] at h
        obtain ⟨t', ht, i', hi, ifs', hifs, gs'', hg, rfl⟩ := h
        exact H.compsCons (target H ht) (expr H hi) (exprs H hifs) (comps H hg)
  termination_by structural _ _ x => x

  theorem target (H : TransfCases n P PL PO POL PD PK PG PT PTs) :
      ∀ {b : List String} {t t' : Expr}, transfTarget n b t = .ok t' → PT b t t'
    | b, .tuple es, t', h => by
        simp only [transfTarget, bind_eq_ok, pure_eq_ok] at h
        obtain ⟨es', hes, rfl⟩ := h
        exact H.tTuple (targets H hes)
    | b, .list es, t', h => by
        simp only [transfTarget, bind_eq_ok, pure_eq_ok] at h
        obtain ⟨es', hes, rfl⟩ := h
        exact H.tList (targets H hes)
    | b, .starred v, t', h => by
        simp only [transfTarget, bind_eq_ok, pure_eq_ok] at h
        obtain ⟨v', hv, rfl⟩ := h
        exact H.tStarred (target H hv)
    | b, .attribute v a, t', h => by
        simp only [transfTarget, bind_eq_ok, pure_eq_ok] at h
        obtain ⟨v', hv, rfl⟩ := h
        exact H.tAttribute (expr H hv)
    | b, .subscript v s, t', h => by
        simp only [transfTarget, bind_eq_ok, pure_eq_ok] at h
        obtain ⟨v', hv, s', hs, rfl⟩ := h
        exact H.tSubscript (expr H hv) (expr H hs)
    | b, .name _, t', h | b, .const _, t', h | b, .joinedStr _, t', h | b, .formattedValue .., t', h | b, .set _, t', h
    | b, .dict _, t', h | b, .slice .., t', h | b, .call .., t', h | b, .binOp .., t', h | b, .boolOp .., t', h
    | b, .unaryOp .., t', h | b, .compare .., t', h | b, .ifExp .., t', h | b, .lambda .., t', h | b, .namedExpr .., t', h
    | b, .listComp .., t', h | b, .setComp .., t', h | b, .dictComp .., t', h | b, .generatorExp .., t', h
    | b, .yield_ _, t', h | b, .yieldFrom _, t', h | b, .await _, t', h => by
        cases h
        exact H.tOther nofun nofun nofun nofun nofun
  termination_by structural _ x => x

  theorem targets (H : TransfCases n P PL PO POL PD PK PG PT PTs) :
      ∀ {b : List String} {es es' : List Expr}, transfTargets n b es = .ok es' → PTs b es es'
    | b, [], es', h => by simp only [transfTargets] at h; cases h; exact H.tsNil
    | b, e :: es, es', h => by
        simp only [transfTargets, bind_eq_ok, pure_eq_ok] at h
        obtain ⟨e', he, es'', hes, rfl⟩ := h
        exact H.tsCons (target H he) (targets H hes)
  termination_by structural _ x => x
end

end TransfCases

end OlVerif
