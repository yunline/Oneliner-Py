/-
  At module level the expression transformer is the identity: names are spelled as plain names
  and walrus targets stay walrus targets, so every expression it accepts comes out unchanged.
-/
import OlVerif.Lower.TransfInd

namespace OlVerif

theorem transf_module_cases (n : Nsp) (hn : n.kind = .module) :
    TransfCases n (fun _ e e' => e' = e) (fun _ es es' => es' = es) (fun _ o o' => o' = o) (fun _ es es' => es' = es)
      (fun _ its its' => its' = its) (fun _ ks ks' => ks' = ks) (fun _ _ gs gs' => gs' = gs)
      (fun _ t t' => t' = t) (fun _ es es' => es' = es) where
  name h := by rw [getLoad_module hn] at h; cases h; rfl
  const := rfl
  walrus hv := by rw [hv]
  walrusStore _ hr hne _ := by rw [getAssign_module hn] at hr; cases hr; exact absurd rfl (hne _ _)
  lambda hds hkd hb := by rw [hds, hkd, hb]
  listComp _ he hg := by rw [he, hg]
  setComp _ he hg := by rw [he, hg]
  generatorExp _ he hg := by rw [he, hg]
  dictComp _ hk hv hg := by rw [hk, hv, hg]
  joinedStr h := by rw [h]
  formattedValue hv hs := by rw [hv, hs]
  list h := by rw [h]
  tuple h := by rw [h]
  set h := by rw [h]
  dict h := by rw [h]
  starred h := by rw [h]
  attr h := by rw [h]
  subscript hv hs := by rw [hv, hs]
  slice hx hy hz := by rw [hx, hy, hz]
  call hf ha hk := by rw [hf, ha, hk]
  binOp hx hy := by rw [hx, hy]
  boolOp h := by rw [h]
  unaryOp h := by rw [h]
  compare hl hc := by rw [hl, hc]
  ifExp ht hx hy := by rw [ht, hx, hy]
  listNil := rfl
  listCons he hes := by rw [he, hes]
  optNone := rfl
  optSome h := by rw [h]
  optListNil := rfl
  optListNone h := by rw [h]
  optListSome he hes := by rw [he, hes]
  itemsNil := rfl
  itemsStar hv hi := by rw [hv, hi]
  itemsKey hk hv hi := by rw [hk, hv, hi]
  kwNil := rfl
  kwCons hv hk := by rw [hv, hk]
  compsNil := rfl
  compsCons ht hi hifs hg := by rw [ht, hi, hifs, hg]
  tTuple h := by rw [h]
  tList h := by rw [h]
  tStarred h := by rw [h]
  tAttribute h := by rw [h]
  tSubscript hv hs := by rw [hv, hs]
  tOther _ _ _ _ _ := rfl
  tsNil := rfl
  tsCons he hes := by rw [he, hes]

theorem transf_module_id (n : Nsp) (hn : n.kind = .module) : ∀ (b : List String) (e e' : Expr), transf n b e = .ok e' → e' = e :=
  fun _ _ _ => (transf_module_cases n hn).expr

theorem transfList_module_id (n : Nsp) (hn : n.kind = .module) : ∀ (b : List String) (es es' : List Expr), transfList n b es = .ok es' → es' = es :=
  fun _ _ _ => (transf_module_cases n hn).exprs

theorem transfOpt_module_id (n : Nsp) (hn : n.kind = .module) : ∀ (b : List String) (o o' : Option Expr), transfOpt n b o = .ok o' → o' = o :=
  fun _ _ _ => (transf_module_cases n hn).opt

theorem transfOptList_module_id (n : Nsp) (hn : n.kind = .module) : ∀ (b : List String) (es es' : List (Option Expr)),
    transfOptList n b es = .ok es' → es' = es :=
  fun _ _ _ => (transf_module_cases n hn).opts

theorem transfItems_module_id (n : Nsp) (hn : n.kind = .module) : ∀ (b : List String) (its its' : List DictItem),
    transfItems n b its = .ok its' → its' = its :=
  fun _ _ _ => (transf_module_cases n hn).items

theorem transfKeywords_module_id (n : Nsp) (hn : n.kind = .module) : ∀ (b : List String) (ks ks' : List Keyword),
    transfKeywords n b ks = .ok ks' → ks' = ks :=
  fun _ _ _ => (transf_module_cases n hn).keywords

theorem transfComps_module_id (n : Nsp) (hn : n.kind = .module) : ∀ (f b : List String) (gs gs' : List Comp),
    transfComps n f b gs = .ok gs' → gs' = gs :=
  fun _ _ _ _ => (transf_module_cases n hn).comps

theorem transfTarget_module_id (n : Nsp) (hn : n.kind = .module) : ∀ (b : List String) (t t' : Expr),
    transfTarget n b t = .ok t' → t' = t :=
  fun _ _ _ => (transf_module_cases n hn).target

theorem transfTargets_module_id (n : Nsp) (hn : n.kind = .module) : ∀ (b : List String) (es es' : List Expr),
    transfTargets n b es = .ok es' → es' = es :=
  fun _ _ _ => (transf_module_cases n hn).targets

end OlVerif
