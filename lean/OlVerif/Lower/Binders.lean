/-
  C09: which names does the emitted code bind?  `bnd e` lists every name bound by a construct
  inside the expression `e`: walrus targets, lambda parameters of every kind, comprehension target
  names.  The theorems: the expression transformer adds no binder; every binder of the converted
  program is a binder of the script, or carries the reserved prefix, or is one of the audited
  helper names.
-/
import OlVerif.Lower.Stmt
import OlVerif.Lower.TransfInd
import OlVerif.Lower.Binder


namespace OlVerif

mutual
  /-- names in store position of a target -/
  def tgtNames : Expr → List String
    | .name x => [x]
    | .tuple es => tgtNamesL es
    | .list es => tgtNamesL es
    | .starred v => tgtNames v
    | _ => []
  def tgtNamesL : List Expr → List String
    | [] => []
    | e :: es => tgtNames e ++ tgtNamesL es
end

mutual
  def bnd : Expr → List String
    | .name _ => []
    | .const _ => []
    | .namedExpr t v => t :: bnd v
    | .lambda (.mk po as va ko kd kw ds) body =>
        Arguments.paramNames (.mk po as va ko kd kw ds) ++ bndL ds ++ bndOL kd ++ bnd body
    | .listComp e gs => bnd e ++ bndG gs
    | .setComp e gs => bnd e ++ bndG gs
    | .generatorExp e gs => bnd e ++ bndG gs
    | .dictComp k v gs => bnd k ++ bnd v ++ bndG gs
    | .joinedStr vs => bndL vs
    | .formattedValue v _ s => bnd v ++ bndO s
    | .list es => bndL es
    | .tuple es => bndL es
    | .set es => bndL es
    | .dict items => bndD items
    | .starred v => bnd v
    | .attribute v _ => bnd v
    | .subscript v s => bnd v ++ bnd s
    | .slice a b c => bndO a ++ bndO b ++ bndO c
    | .call f as ks => bnd f ++ bndL as ++ bndK ks
    | .binOp a _ b => bnd a ++ bnd b
    | .boolOp _ vs => bndL vs
    | .unaryOp _ v => bnd v
    | .compare l _ cs => bnd l ++ bndL cs
    | .ifExp t b e => bnd t ++ bnd b ++ bnd e
    | .yield_ v => bndO v
    | .yieldFrom v => bnd v
    | .await v => bnd v
  def bndL : List Expr → List String
    | [] => []
    | e :: es => bnd e ++ bndL es
  def bndO : Option Expr → List String
    | none => []
    | some e => bnd e
  def bndOL : List (Option Expr) → List String
    | [] => []
    | none :: es => bndOL es
    | some e :: es => bnd e ++ bndOL es
  def bndD : List DictItem → List String
    | [] => []
    | .mk none v :: its => bnd v ++ bndD its
    | .mk (some k) v :: its => bnd k ++ bnd v ++ bndD its
  def bndK : List Keyword → List String
    | [] => []
    | .mk _ v :: ks => bnd v ++ bndK ks
  /-- a comprehension clause binds the names of its target; the target's own subexpressions (objects
      and indexes of attribute / subscript targets), the iterable and the conditions may bind more -/
  def bndG : List Comp → List String
    | [] => []
    | .mk t i ifs _ :: gs => tgtNames t ++ bnd t ++ bnd i ++ bndL ifs ++ bndG gs
end


/-! ### the expression transformer adds no binder -/

theorem app_sub {α : Type} {a a' b b' : List α} (h1 : a' ⊆ a) (h2 : b' ⊆ b) : a' ++ b' ⊆ a ++ b :=
  List.append_subset.mpr ⟨List.subset_append_of_subset_left _ h1, List.subset_append_of_subset_right _ h2⟩

theorem bnd_dictLoad (d x : String) : bnd (dictLoad d x) = [] := by simp [dictLoad, bnd, Expr.str]
theorem bnd_str (s : String) : bnd (Expr.str s) = [] := by simp [Expr.str, bnd]

theorem getLoad_bnd {n : Nsp} {b : List String} {x : String} {e : Expr} (h : n.getLoad b x = .ok e) : bnd e = [] := by
  rcases Nsp.getLoad_cases h with rfl | ⟨d, rfl⟩
  · simp only [bnd]
  · exact bnd_dictLoad d x

theorem getAssign_bnd {n : Nsp} {x : String} {v e : Expr} (h : n.getAssign x v = .ok e) : bnd e ⊆ x :: bnd v := by
  rcases Nsp.getAssign_cases h with rfl | rfl | ⟨d, rfl⟩
  · simp only [bnd]; exact fun _ h => h
  all_goals
    simp only [dictSetitem, globalsSetitem, bnd, bndL, bndK, bnd_str, List.append_nil, List.nil_append]
    exact fun _ h => List.mem_cons_of_mem _ h

theorem transf_bnd_cases (n : Nsp) :
    TransfCases n (fun _ e e' => bnd e' ⊆ bnd e) (fun _ es es' => bndL es' ⊆ bndL es) (fun _ o o' => bndO o' ⊆ bndO o)
      (fun _ es es' => bndOL es' ⊆ bndOL es) (fun _ its its' => bndD its' ⊆ bndD its) (fun _ ks ks' => bndK ks' ⊆ bndK ks)
      (fun _ _ gs gs' => bndG gs' ⊆ bndG gs) (fun _ t t' => tgtNames t' ⊆ tgtNames t ∧ bnd t' ⊆ bnd t)
      (fun _ es es' => tgtNamesL es' ⊆ tgtNamesL es ∧ bndL es' ⊆ bndL es) where
  name h := by rw [getLoad_bnd h]; exact List.nil_subset _
  const := fun h => h
  walrus hv := by simp only [bnd]; exact List.cons_subset_cons _ hv
  walrusStore hv hr _ hl := by
    simp only [bnd, bndL, getLoad_bnd hl, Expr.neg1, List.append_nil]
    exact List.Subset.trans (getAssign_bnd hr) (List.cons_subset_cons _ hv)
  lambda hds hkd hb := by
    simp only [bnd, Arguments.paramNames]
    exact app_sub (app_sub (app_sub (List.Subset.refl _) hds) hkd) hb
  listComp _ he hg := by simp only [bnd]; exact app_sub he hg
  setComp _ he hg := by simp only [bnd]; exact app_sub he hg
  generatorExp _ he hg := by simp only [bnd]; exact app_sub he hg
  dictComp _ hk hv hg := by simp only [bnd]; exact app_sub (app_sub hk hv) hg
  joinedStr h := by simp only [bnd]; exact h
  formattedValue hv hs := by simp only [bnd]; exact app_sub hv hs
  list h := by simp only [bnd]; exact h
  tuple h := by simp only [bnd]; exact h
  set h := by simp only [bnd]; exact h
  dict h := by simp only [bnd]; exact h
  starred h := by simp only [bnd]; exact h
  attr h := by simp only [bnd]; exact h
  subscript hv hs := by simp only [bnd]; exact app_sub hv hs
  slice hx hy hz := by simp only [bnd]; exact app_sub (app_sub hx hy) hz
  call hf ha hk := by simp only [bnd]; exact app_sub (app_sub hf ha) hk
  binOp hx hy := by simp only [bnd]; exact app_sub hx hy
  boolOp h := by simp only [bnd]; exact h
  unaryOp h := by simp only [bnd]; exact h
  compare hl hc := by simp only [bnd]; exact app_sub hl hc
  ifExp ht hx hy := by simp only [bnd]; exact app_sub (app_sub ht hx) hy
  listNil := fun h => h
  listCons he hes := by simp only [bndL]; exact app_sub he hes
  optNone := fun h => h
  optSome h := by simp only [bndO]; exact h
  optListNil := fun h => h
  optListNone h := by simp only [bndOL]; exact h
  optListSome he hes := by simp only [bndOL]; exact app_sub he hes
  itemsNil := fun h => h
  itemsStar hv hi := by simp only [bndD]; exact app_sub hv hi
  itemsKey hk hv hi := by simp only [bndD]; exact app_sub (app_sub hk hv) hi
  kwNil := fun h => h
  kwCons hv hk := by simp only [bndK]; exact app_sub hv hk
  compsNil := fun h => h
  compsCons ht hi hifs hg := by simp only [bndG]; exact app_sub (app_sub (app_sub (app_sub ht.1 ht.2) hi) hifs) hg
  tTuple h := by simp only [tgtNames, bnd]; exact h
  tList h := by simp only [tgtNames, bnd]; exact h
  tStarred h := by simp only [tgtNames, bnd]; exact h
  tAttribute h := by simp only [tgtNames, bnd]; exact ⟨List.Subset.refl _, h⟩
  tSubscript hv hs := by simp only [tgtNames, bnd]; exact ⟨List.Subset.refl _, app_sub hv hs⟩
  tOther _ _ _ _ _ := ⟨List.Subset.refl _, List.Subset.refl _⟩
  tsNil := ⟨List.Subset.refl _, List.Subset.refl _⟩
  tsCons he hes := by simp only [tgtNamesL, bndL]; exact ⟨app_sub he.1 hes.1, app_sub he.2 hes.2⟩

theorem transf_bnd (n : Nsp) : ∀ (b : List String) (e e' : Expr), transf n b e = .ok e' → bnd e' ⊆ bnd e :=
  fun _ _ _ => (transf_bnd_cases n).expr

theorem transfList_bnd (n : Nsp) : ∀ (b : List String) (es es' : List Expr), transfList n b es = .ok es' → bndL es' ⊆ bndL es :=
  fun _ _ _ => (transf_bnd_cases n).exprs

theorem transfOpt_bnd (n : Nsp) : ∀ (b : List String) (o o' : Option Expr), transfOpt n b o = .ok o' → bndO o' ⊆ bndO o :=
  fun _ _ _ => (transf_bnd_cases n).opt

theorem transfOptList_bnd (n : Nsp) : ∀ (b : List String) (es es' : List (Option Expr)), transfOptList n b es = .ok es' →
    bndOL es' ⊆ bndOL es :=
  fun _ _ _ => (transf_bnd_cases n).opts

theorem transfItems_bnd (n : Nsp) : ∀ (b : List String) (its its' : List DictItem), transfItems n b its = .ok its' →
    bndD its' ⊆ bndD its :=
  fun _ _ _ => (transf_bnd_cases n).items

theorem transfKeywords_bnd (n : Nsp) : ∀ (b : List String) (ks ks' : List Keyword), transfKeywords n b ks = .ok ks' →
    bndK ks' ⊆ bndK ks :=
  fun _ _ _ => (transf_bnd_cases n).keywords

theorem transfComps_bnd (n : Nsp) : ∀ (f b : List String) (gs gs' : List Comp), transfComps n f b gs = .ok gs' → bndG gs' ⊆ bndG gs :=
  fun _ _ _ _ => (transf_bnd_cases n).comps

theorem transfTarget_bnd (n : Nsp) : ∀ (b : List String) (t t' : Expr), transfTarget n b t = .ok t' →
    tgtNames t' ⊆ tgtNames t ∧ bnd t' ⊆ bnd t :=
  fun _ _ _ => (transf_bnd_cases n).target

theorem transfTargets_bnd (n : Nsp) : ∀ (b : List String) (es es' : List Expr), transfTargets n b es = .ok es' →
    tgtNamesL es' ⊆ tgtNamesL es ∧ bndL es' ⊆ bndL es :=
  fun _ _ _ => (transf_bnd_cases n).targets


/-! ### reserved and audited helper names -/

/-- helper names without the reserved prefix that the emitted code binds: `_`, `__` (the chain-call
    runner's own lambdas), `self`, `it` (the iterator-wrapper preset), `__class__` (the cell the class
    loader provides), `itertools`, `importlib` (the two helper modules the property allows) -/
def auditedBinders : List String := ["_", "__", "self", "it", "__class__", "itertools", "importlib"]

/-- carries the reserved prefix, or is on the audited list -/
def Res (x : String) : Prop := x.toList.take 5 = "__ol_".toList ∨ x ∈ auditedBinders

theorem res_supply (s : Supply) (p : String) : Res (s.fresh p).1 := .inl (fresh_prefix s p)

theorem res_fresh (st : St) (p : String) : Res (st.fresh p).1 := res_supply st.sup p

/-- every name in `l` is one of `U` (the script's own binders) or a helper name -/
def AllOk (U l : List String) : Prop := ∀ x ∈ l, x ∈ U ∨ Res x

theorem allOk_nil (U : List String) : AllOk U [] := by intro x hx; cases hx
theorem allOk_append {U a b : List String} (ha : AllOk U a) (hb : AllOk U b) : AllOk U (a ++ b) :=
  List.forall_mem_append.mpr ⟨ha, hb⟩
theorem allOk_cons_res {U l : List String} {x : String} (hx : Res x) (hl : AllOk U l) : AllOk U (x :: l) :=
  List.forall_mem_cons.mpr ⟨Or.inr hx, hl⟩
theorem allOk_cons_mem {U l : List String} {x : String} (hx : x ∈ U) (hl : AllOk U l) : AllOk U (x :: l) :=
  List.forall_mem_cons.mpr ⟨Or.inl hx, hl⟩
theorem allOk_of_sub {U l : List String} (h : l ⊆ U) : AllOk U l := fun _ hx => Or.inl (h hx)
theorem allOk_sub {U l l' : List String} (h : l' ⊆ l) (hl : AllOk U l) : AllOk U l' := fun x hx => hl x (h hx)
theorem allOk_ite (c : Prop) [Decidable c] {U a b : List String} (ha : AllOk U a) (hb : AllOk U b) :
    AllOk U (if c then a else b) := by split <;> assumption

theorem bndL_append : ∀ (a b : List Expr), bndL (a ++ b) = bndL a ++ bndL b
  | [], b => by simp [bndL]
  | x :: a, b => by simp [bndL, bndL_append a b, List.append_assoc]

/-! ### templates -/

theorem bnd_setFlag (x : String) (v : Bool) : bnd (setFlag x v) = [x] := by
  unfold setFlag; split <;> simp [bnd, Expr.true_, Expr.false_]
theorem bnd_intConstant (v : Int) : bnd (intConstant v) = [] := by unfold intConstant; split <;> simp [bnd]
theorem bnd_none : bnd Expr.none_ = [] := by simp [Expr.none_, bnd]
theorem bnd_getD (o : Option Expr) : bnd (o.getD Expr.none_) = bndO o := by cases o <;> simp [bndO, bnd_none]

theorem bnd_convertSlice (a b c : Option Expr) : bnd (convertSlice a b c) = bndO a ++ bndO b ++ bndO c := by
  simp [convertSlice, bnd, bndL, bndK, bnd_getD, List.append_assoc]

theorem bndL_map_of (f : Expr → Expr) (hf : ∀ e, bnd (f e) = bnd e) : ∀ (es : List Expr), bndL (es.map f) = bndL es
  | [] => rfl
  | e :: es => by simp [bndL, hf, bndL_map_of f hf es]

theorem bnd_convertIndex (s : Expr) : bnd (convertIndex s) = bnd s := by
  cases s with
  | slice a b c => simp [convertIndex, bnd_convertSlice, bnd]
  | tuple es =>
    simp only [convertIndex, bnd]
    apply bndL_map_of
    intro e
    cases e <;> simp [bnd_convertSlice, bnd]
  | _ => simp [convertIndex]

theorem bnd_augAssignExpr (t : Expr) (op : BinOpK) (v : Expr) : bnd (augAssignExpr t op v) = bnd t ++ bnd v := by
  simp [augAssignExpr, bnd, bndL, bndK, bnd_str]

theorem bnd_chainRunner : bnd chainRunner = ["_", "__"] := by
  simp [chainRunner, bnd, bndL, bndK, bndOL, Arguments.empty, Arguments.simple, Arguments.paramNames]

theorem bnd_foldl_call : ∀ (es : List Expr) (acc : Expr),
    bnd (es.foldl (fun acc x => .call acc [x] []) acc) = bnd acc ++ bndL es
  | [], acc => by simp [bndL]
  | e :: es, acc => by
      simp only [List.foldl]
      rw [bnd_foldl_call es]
      simp [bnd, bndL, bndK, List.append_assoc]

theorem allOk_wrapExprs (U : List String) (cfg : Cfg) {es : List Expr} (h : AllOk U (bndL es)) :
    AllOk U (bnd (wrapExprs cfg es)) := by
  match es, h with
  | [], _ => simp [wrapExprs, Expr.ellipsis, bnd]; exact allOk_nil U
  | [e], h => simpa [wrapExprs, bndL] using h
  | e1 :: e2 :: rest, h =>
    simp only [wrapExprs]
    split
    · simpa [listWrapper, bnd] using h
    · simp only [chainCallWrapper]
      rw [bnd_foldl_call]
      simp only [bnd, bndL, bndK, bnd_chainRunner, List.append_nil, List.append_assoc]
      simp only [bndL] at h
      refine allOk_cons_res (Or.inr (by decide)) (allOk_cons_res (Or.inr (by decide)) ?_)
      simpa [List.append_assoc] using h

theorem allOk_iterWrapperBody (U : List String) : AllOk U (bnd iterWrapperBody) := by
  have : bnd iterWrapperBody = [iterWrapperName, "self", "it", "self", "self"] := by
    simp [iterWrapperBody, bnd, bndL, bndK, bndD, bndOL, Arguments.simple, Arguments.paramNames, Expr.str, Expr.neg1,
      Expr.none_, Expr.false_]
  rw [this]
  intro x hx
  right
  simp only [List.mem_cons, List.not_mem_nil, or_false] at hx
  rcases hx with rfl | rfl | rfl | rfl | rfl
  · left; decide +kernel
  all_goals (right; decide)

end OlVerif
