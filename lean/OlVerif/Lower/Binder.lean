/-
  C06, captured variables: the dictionary a free / nonlocal name is read from and written to is
  the dictionary of the function CPython binds the name in, and that function itself uses it.

  Specification side: `pyBinder` - CPython's rule, stated on the symbol tables with CPython's own
  verdict `is_local()` (a flag the code never consults): the binder of a free name is the nearest
  enclosing *function* scope in which the name is local; class scopes are skipped.
  Code side: `findOwner` (the outward walk with the ownership test on `is_assigned` /
  `is_imported` / `is_parameter` / `is_global` / `is_nonlocal`), `claimsOf`, `buildNsp`.

  The last section is about the name supply (`fresh_eq`, `fresh_prefix`, `fresh_inj`, `fresh_ne_of_lt`);
  C09 and Sem use these lemmas too.
-/
import OlVerif.Lower.Except


namespace OlVerif

/-- the code's ownership test (`ownsName`) as a function of the flags -/
def SymInfo.owns (i : SymInfo) : Bool :=
  !i.isNonlocal && (i.isAssigned || i.isImported || (i.isParameter && !i.isGlobal))

/-- CPython's rule: the dictionary name of the nearest enclosing function scope in which `x` is local -/
def pyBinder (x : String) : Stack → Option String
  | [] => none
  | (.function, s, d) :: rest =>
    match s.lookup x with
    | some i => if i.isLocal then some d else pyBinder x rest
    | none => pyBinder x rest
  | (.module, _, _) :: _ => none
  | (_, _, _) :: rest => pyBinder x rest

/-- what CPython guarantees about the function scopes between a free use and its binder: the name
    is in their tables (free variables propagate through intermediate scopes) and the code's
    ownership test agrees with `is_local()` on it.  Checked on every symbol table of the corpus by
    the correspondence check (`walk_invariants` in harness/lower_common.py). -/
def WalkOK (x : String) : Stack → Prop
  | [] => True
  | (.function, s, _) :: rest => ∃ i, s.lookup x = some i ∧ i.owns = i.isLocal ∧ (i.isLocal = false → WalkOK x rest)
  | (.module, _, _) :: _ => True
  | (.class_, _, _) :: rest => WalkOK x rest
  | (.other_, _, _) :: rest => WalkOK x rest

/-- the walk succeeds exactly where CPython has a binder, and finds it -/
theorem findOwner_iff_pyBinder (x : String) : ∀ (stack : Stack), WalkOK x stack →
    ∀ d, (∃ p, findOwner x stack = .ok (d, p)) ↔ pyBinder x stack = some d
  | [], _, d | (.module, _, _) :: _, _, d => by simp [findOwner, pyBinder]
  | (.function, s, d0) :: rest, hw, d => by
      obtain ⟨i, hi, ho, hrest⟩ := hw
      rw [SymInfo.owns] at ho
      simp only [pyBinder, hi, findOwner, ownsName, bind, Except.bind, ho]
      cases hl : i.isLocal with
      | true => simp [pure, Except.pure]
      | false =>
        simp only [Bool.false_eq_true, if_false]
        exact findOwner_iff_pyBinder x rest (hrest hl) d
  | (.class_, s, d0) :: rest, hw, d | (.other_, s, d0) :: rest, hw, d => by
      simp only [findOwner, pyBinder]
      exact findOwner_iff_pyBinder x rest hw d

theorem findOwner_eq_pyBinder (x : String) : ∀ (stack : Stack), WalkOK x stack →
    ∀ d, pyBinder x stack = some d → ∃ p, findOwner x stack = .ok (d, p) :=
  fun stack hw d => (findOwner_iff_pyBinder x stack hw d).mpr

theorem pyBinder_of_findOwner (x : String) : ∀ (stack : Stack), WalkOK x stack →
    ∀ d p, findOwner x stack = .ok (d, p) → pyBinder x stack = some d :=
  fun stack hw d p h => (findOwner_iff_pyBinder x stack hw d).mp ⟨p, h⟩


/-! ### the owner knows: claims reach the function that owns the name -/

/-- every (name ↦ dictionary) decision taken in a namespace or below it -/
def Nsp.allOuter : Nsp → List (String × String)
  | .mk _ _ _ _ _ _ _ outerMap _ _ _ children => outerMap ++ allOuterL children
where
  allOuterL : List Nsp → List (String × String)
    | [] => []
    | c :: cs => c.allOuter ++ allOuterL cs

theorem claimsOf_spec (stack : Stack) : ∀ (cands : List String) (cl : List Claim), claimsOf stack cands = .ok cl →
    (∀ c ∈ cl, ∃ p, findOwner c.2.1 stack = .ok (c.1, p)) ∧ cl.map (fun c => c.2.1) = cands
  | [], cl, h => by simp only [claimsOf] at h; cases h; simp
  | x :: xs, cl, h => by
      simp only [claimsOf, bind_eq_ok, pure_eq_ok] at h
      obtain ⟨⟨d, p⟩, hf, rest, hr, rfl⟩ := h
      have ih := claimsOf_spec stack xs rest hr
      refine ⟨?_, by simp [ih.2]⟩
      intro c hc
      simp only [List.mem_cons] at hc
      rcases hc with rfl | hc
      · exact ⟨p, hf⟩
      · exact ih.1 c hc

theorem Nsp.allOuter_eq (n : Nsp) : n.allOuter = n.outerMap ++ Nsp.allOuter.allOuterL n.children := by
  cases n; rfl

/-- What a successful `buildNsp stack sup s = .ok (n, cl, sup')` says about `n`, with `own` the claims of its own
    candidates and `kidClaims` those of its subtree. -/
structure BuildNspInv (stack : Stack) (sup : Supply) (s : SymScope) (n : Nsp) (cl : List Claim) (sup' : Supply)
    (own kidClaims : List Claim) : Prop where
  claims : claimsOf stack (nonlocalCandidates s.kind s n.isMethod).1 = .ok own
  children : ∃ globs sup1,
    buildChildren ((s.kind, s, n.dictName) :: stack) sup1 s.children = .ok (n.children, kidClaims, globs, sup')
  cl_eq : cl = own ++ kidClaims
  outerMap : n.outerMap = own.map (fun c => (c.2.1, c.1))
  innerNonlocal : n.innerNonlocal = ((kidClaims.filter fun c => c.1 == n.dictName).map fun c => c.2.1).eraseDups
  retvName : n.retvName = (sup.fresh "retv").1
  retName : n.retName = ((sup.fresh "retv").2.fresh "ret").1
  /-- the third name drawn, after `retv` and `ret` -/
  dictName : ∃ p, n.dictName = ((⟨sup.next + 2⟩ : Supply).fresh p).1

theorem buildNsp_inv {stack : Stack} {sup : Supply} {s : SymScope} {n : Nsp} {cl : List Claim} {sup' : Supply}
    (h : buildNsp stack sup s = .ok (n, cl, sup')) : ∃ own kidClaims, BuildNspInv stack sup s n cl sup' own kidClaims := by
  obtain ⟨name, kind, lineno, symbols, frees, nonlocals, params, methods, children⟩ := s
  simp only [buildNsp, bind_eq_ok, pure_eq_ok] at h
  obtain ⟨own, hown, ⟨kids, kidClaims, globs, sup2⟩, hk, h⟩ := h
  cases h
  refine ⟨own, kidClaims, hown, ⟨globs, _, hk⟩, rfl, rfl, rfl, rfl, rfl, if kind == .class_ then "classnsp" else "nonlocal", ?_⟩
  simp only [Nsp.dictName]
  split <;> rfl

mutual
  /-- the claims a subtree reports contain every decision taken in it -/
  theorem buildNsp_claims : ∀ (s : SymScope) (stack : Stack) (sup : Supply) (n : Nsp) (cl : List Claim) (sup' : Supply),
      buildNsp stack sup s = .ok (n, cl, sup') → ∀ xd ∈ n.allOuter, ∃ p, (xd.2, xd.1, p) ∈ cl
    | .mk name kind lineno symbols frees nonlocals params methods children, stack, sup, n, cl, sup', h => by
        obtain ⟨own, kidClaims, i⟩ := buildNsp_inv h
        obtain ⟨globs, sup1, hk⟩ := i.children
        intro xd hxd
        rw [Nsp.allOuter_eq, i.outerMap] at hxd
        rcases List.mem_append.mp hxd with hxd | hxd
        · obtain ⟨c, hc, rfl⟩ := List.mem_map.mp hxd
          exact ⟨c.2.2, by simp [i.cl_eq, hc]⟩
        · obtain ⟨p, hp⟩ := buildChildren_claims children _ _ _ kidClaims globs sup' hk xd hxd
          exact ⟨p, by simp [i.cl_eq, hp]⟩
  termination_by structural s => s

  theorem buildChildren_claims : ∀ (cs : List SymScope) (stack : Stack) (sup : Supply) (kids : List Nsp) (cl : List Claim)
      (globs : List String) (sup' : Supply), buildChildren stack sup cs = .ok (kids, cl, globs, sup') →
      ∀ xd ∈ Nsp.allOuter.allOuterL kids, ∃ p, (xd.2, xd.1, p) ∈ cl
    | [], stack, sup, kids, cl, globs, sup', h => by
        simp only [buildChildren] at h; cases h
        intro xd hxd; simp [Nsp.allOuter.allOuterL] at hxd
    | c :: cs, stack, sup, kids, cl, globs, sup', h => by
        simp only [buildChildren] at h
        split at h
        · exact buildChildren_claims cs stack sup kids cl globs sup' h
        · split at h
          · obtain ⟨⟨kids0, cl0, globs0, sup0⟩, hk, h⟩ := bind_ok h
            cases pure_ok h
            exact buildChildren_claims cs stack sup _ _ _ _ hk
          · obtain ⟨⟨n, cl1, sup1⟩, hn, h⟩ := bind_ok h
            obtain ⟨⟨kids0, cl0, globs0, sup0⟩, hk, h⟩ := bind_ok h
            cases pure_ok h
            intro xd hxd
            simp only [Nsp.allOuter.allOuterL, List.mem_append] at hxd
            rcases hxd with hxd | hxd
            · obtain ⟨p, hp⟩ := buildNsp_claims c stack sup n cl1 sup1 hn xd hxd
              exact ⟨p, by simp [hp]⟩
            · obtain ⟨p, hp⟩ := buildChildren_claims cs stack sup1 kids0 cl0 globs0 sup0 hk xd hxd
              exact ⟨p, by simp [hp]⟩
  termination_by structural cs => cs
end


/-- whenever a namespace below `n` decided to keep a name in `n`'s dictionary, `n` lists the name among its
    dictionary-stored names -/
theorem owner_knows (s : SymScope) (stack : Stack) (sup : Supply) (n : Nsp) (cl : List Claim) (sup' : Supply)
    (h : buildNsp stack sup s = .ok (n, cl, sup')) :
    ∀ xd ∈ Nsp.allOuter.allOuterL n.children, xd.2 = n.dictName → xd.1 ∈ n.innerNonlocal := by
  obtain ⟨_, kidClaims, i⟩ := buildNsp_inv h
  obtain ⟨globs, _, hk⟩ := i.children
  intro xd hxd hd
  obtain ⟨p, hp⟩ := buildChildren_claims _ _ _ _ kidClaims globs sup' hk xd hxd
  rw [i.innerNonlocal, List.mem_eraseDups]
  exact List.mem_map.mpr ⟨(xd.2, xd.1, p), List.mem_filter.mpr ⟨hp, by simp [hd]⟩, rfl⟩

/-- the decisions of a namespace are the walk's: `outerMap` sends every free / nonlocal candidate
    to the dictionary `findOwner` returns for it -/
theorem outerMap_spec (s : SymScope) (stack : Stack) (sup : Supply) (n : Nsp) (cl : List Claim) (sup' : Supply)
    (h : buildNsp stack sup s = .ok (n, cl, sup')) :
    ∀ xd ∈ n.outerMap, ∃ p, findOwner xd.1 stack = .ok (xd.2, p) := by
  obtain ⟨own, _, i⟩ := buildNsp_inv h
  intro xd hxd
  rw [i.outerMap] at hxd
  obtain ⟨c, hc, rfl⟩ := List.mem_map.mp hxd
  exact (claimsOf_spec stack _ own i.claims).1 c hc

theorem mem_candidates (s : SymScope) (x : String) (hx : x ∈ s.frees ++ s.nonlocals) (hc : x ≠ "__class__") (m : Bool) :
    x ∈ (nonlocalCandidates .function s m).1 := by
  simp only [nonlocalCandidates, List.mem_filter]
  exact ⟨hx, by simpa using hc⟩

theorem outerMap_complete (s : SymScope) (stack : Stack) (sup : Supply) (n : Nsp) (cl : List Claim) (sup' : Supply)
    (h : buildNsp stack sup s = .ok (n, cl, sup')) (hk : s.kind = .function) (x : String)
    (hx : x ∈ s.frees ++ s.nonlocals) (hc : x ≠ "__class__") : ∃ d, (x, d) ∈ n.outerMap := by
  obtain ⟨own, _, i⟩ := buildNsp_inv h
  have hown := i.claims
  rw [hk] at hown
  have hx' := mem_candidates s x hx hc n.isMethod
  rw [← (claimsOf_spec stack _ own hown).2] at hx'
  obtain ⟨c, hc1, rfl⟩ := List.mem_map.mp hx'
  exact ⟨c.1, i.outerMap ▸ List.mem_map.mpr ⟨c, hc1, rfl⟩⟩

/-! ### fresh dictionary names never collide with those of the enclosing scopes -/

theorem fresh_eq (s : Supply) (p : String) : (s.fresh p).1 = ("__ol_" ++ p ++ "_") ++ "#" ++ toString s.next := by
  simp [Supply.fresh, toString, String.append_assoc]

theorem fresh_prefix (s : Supply) (p : String) : (s.fresh p).1.toList.take 5 = "__ol_".toList := by
  rw [fresh_eq]
  simp [String.toList_append]

-- the counter is read back off a name: it is the run of digits after the last `#`
theorem digits_rev (a : Nat) (u : List Char) :
    ((u ++ '#' :: (toString a).toList).reverse.takeWhile Char.isDigit) = (toString a).toList.reverse := by
  rw [List.reverse_append, List.reverse_cons, List.append_assoc, List.takeWhile_append_of_pos]
  · simp
  · intro c hc
    rw [List.mem_reverse, Nat.toString_eq_repr, Nat.toList_repr] at hc
    exact Nat.isDigit_of_mem_toDigits (by decide) (by decide) hc

theorem suffix_inj (u v : String) (a b : Nat) (h : u ++ "#" ++ toString a = v ++ "#" ++ toString b) : a = b := by
  have h1 := congrArg String.toList h
  simp only [String.toList_append] at h1
  have ha := digits_rev a u.toList
  have hb := digits_rev b v.toList
  have e : ("#" : String).toList = ['#'] := rfl
  simp only [e, List.append_assoc, List.singleton_append] at h1
  rw [h1] at ha
  rw [ha] at hb
  have := congrArg List.reverse hb
  simp only [List.reverse_reverse] at this
  rw [Nat.toString_eq_repr, Nat.toString_eq_repr, Nat.toList_repr, Nat.toList_repr] at this
  have ha' := Nat.ofDigitChars_ten_toDigits (n := a)
  have hb' := Nat.ofDigitChars_ten_toDigits (n := b)
  rw [this] at ha'
  omega

theorem fresh_inj (s t : Supply) (p q : String) (h : (s.fresh p).1 = (t.fresh q).1) : s.next = t.next := by
  rw [fresh_eq, fresh_eq] at h
  exact suffix_inj _ _ _ _ h

theorem fresh_ne_of_lt {k : Nat} {s : Supply} (h : k < s.next) (q p : String) :
    ((Supply.mk k).fresh q).1 ≠ (s.fresh p).1 :=
  fun he => Nat.ne_of_lt h (fresh_inj _ _ _ _ he)

/-- a dictionary name handed out earlier: the module's empty name, or a fresh name with a smaller counter -/
def EarlierName (d : String) (m : Nat) : Prop := d = "" ∨ ∃ k p, k < m ∧ d = ((Supply.mk k).fresh p).1

theorem fresh_ne_empty (s : Supply) (p : String) : (s.fresh p).1 ≠ "" := by
  intro h
  have := fresh_prefix s p
  rw [h] at this
  cases this

theorem EarlierName.ne_fresh {d : String} {m : Nat} (h : EarlierName d m) {s : Supply} (hm : m ≤ s.next) (p : String) :
    d ≠ (s.fresh p).1 := by
  rcases h with rfl | ⟨k, q, hk, rfl⟩
  · exact (fresh_ne_empty s p).symm
  · exact fresh_ne_of_lt (Nat.lt_of_lt_of_le hk hm) q p

theorem dict_new (s : SymScope) (stack : Stack) (sup : Supply) (n : Nsp) (cl : List Claim) (sup' : Supply)
    (h : buildNsp stack sup s = .ok (n, cl, sup'))
    (hst : ∀ e ∈ stack, EarlierName e.2.2 sup.next) : ∀ e ∈ stack, e.2.2 ≠ n.dictName := by
  obtain ⟨_, _, i⟩ := buildNsp_inv h
  obtain ⟨p, hd⟩ := i.dictName
  intro e he heq
  exact (hst e he).ne_fresh (s := ⟨sup.next + 2⟩) (Nat.le_add_right _ _) p (heq.trans hd)

end OlVerif
