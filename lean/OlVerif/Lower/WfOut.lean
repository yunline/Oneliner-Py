/-
  Well-formedness of the conversion's output (`wfE`, Unparse/WF.lean), part 1: the expression transformer copies
  shapes, so it keeps trees well-formed.  (Part 2, the statement templates and the wrappers: WfOutStmt.lean.)
-/
import OlVerif.Lower.TransfInd
import OlVerif.Unparse.WF


namespace OlVerif

/-! ### leaves and small templates -/

theorem wfE_str (s : String) : wfE (Expr.str s) := by
  simp only [Expr.str, wfE, wfC]
  intro c hc
  simp only [List.mem_map] at hc
  obtain ⟨ch, _, rfl⟩ := hc
  rcases ch.valid with h | h
  · exact Nat.lt_trans h (by decide)
  · exact h.2

theorem wfE_name (x : String) : wfE (.name x) := by simp only [wfE]
theorem wfE_none : wfE Expr.none_ := by simp [Expr.none_, wfE, wfC]
theorem wfE_true : wfE Expr.true_ := by simp [Expr.true_, wfE, wfC]
theorem wfE_false : wfE Expr.false_ := by simp [Expr.false_, wfE, wfC]
theorem wfE_ellipsis : wfE Expr.ellipsis := by simp [Expr.ellipsis, wfE, wfC]
theorem wfE_neg1 : wfE Expr.neg1 := by simp [Expr.neg1, wfE, wfC]
theorem wfE_nat (n : Nat) : wfE (.const (.int n)) := by simp [wfE, wfC]

theorem not_starred_of_wfE {e : Expr} (h : wfE e) : ∀ v, e ≠ .starred v := by
  intro v hv; subst hv; simp [wfE] at h

theorem wfElts_cons {e : Expr} {es : List Expr} (h : wfE e) (hs : wfElts es) : wfElts (e :: es) := by
  cases e <;> first | (simp [wfE] at h; done) | (simp only [wfElts]; exact ⟨h, hs⟩)

theorem wfElts_of_wfL : ∀ {es : List Expr}, wfL es → wfElts es
  | [], _ => by simp only [wfElts]
  | e :: es, h => by
      simp only [wfL] at h
      exact wfElts_cons h.1 (wfElts_of_wfL h.2)

theorem wfElts_nil : wfElts [] := by simp only [wfElts]
theorem wfKws_nil : wfKws [] := by simp only [wfKws]

theorem wfE_call {f : Expr} {as : List Expr} (hf : wfE f) (ha : wfL as) : wfE (.call f as []) := by
  simp only [wfE]; exact ⟨hf, wfElts_of_wfL ha, wfKws_nil⟩

theorem wfE_list {es : List Expr} (h : wfL es) : wfE (.list es) := by
  simp only [wfE]; exact wfElts_of_wfL h

theorem wfL_nil : wfL [] := by simp only [wfL]
theorem wfL_cons {e : Expr} {es : List Expr} (h : wfE e) (hs : wfL es) : wfL (e :: es) := by
  simp only [wfL]; exact ⟨h, hs⟩
theorem wfL_append : ∀ {a b : List Expr}, wfL a → wfL b → wfL (a ++ b)
  | [], b, _, hb => hb
  | x :: a, b, ha, hb => by
      simp only [wfL] at ha
      exact wfL_cons ha.1 (wfL_append ha.2 hb)
theorem wfL_of_mem : ∀ {es : List Expr}, (∀ e ∈ es, wfE e) → wfL es
  | [], _ => wfL_nil
  | e :: es, h => wfL_cons (h e (by simp)) (wfL_of_mem (fun x hx => h x (by simp [hx])))
theorem wfE_of_mem : ∀ {es : List Expr}, wfL es → ∀ e ∈ es, wfE e
  | [], _, e, he => by cases he
  | x :: es, h, e, he => by
      simp only [wfL] at h
      simp only [List.mem_cons] at he
      rcases he with rfl | he
      · exact h.1
      · exact wfE_of_mem h.2 e he

theorem wfE_subscript {v s : Expr} (hv : wfE v) (hs : wfE s) (hk : ∀ es, s ≠ .tuple es) : wfE (.subscript v s) := by
  simp only [wfE]
  refine ⟨hv, ?_⟩
  cases s <;> first | (simp [wfE] at hs; done) | (exact absurd rfl (hk _)) | (simp only [wfSlice]; exact hs)

theorem wfE_namedExpr (t : String) {v : Expr} (hv : wfE v) : wfE (.namedExpr t v) := by simp only [wfE]; exact hv
theorem wfE_attribute {v : Expr} (a : String) (hv : wfE v) : wfE (.attribute v a) := by simp only [wfE]; exact hv
theorem wfE_ifExp {t b e : Expr} (ht : wfE t) (hb : wfE b) (he : wfE e) : wfE (.ifExp t b e) := by
  simp only [wfE]; exact ⟨ht, hb, he⟩
theorem wfE_not {e : Expr} (h : wfE e) : wfE (Expr.not_ e) := by simp only [Expr.not_, wfE]; exact h
theorem wfE_binOp {a b : Expr} (op : BinOpK) (ha : wfE a) (hb : wfE b) : wfE (.binOp a op b) := by
  simp only [wfE]; exact ⟨ha, hb⟩
theorem wfE_boolOp2 {a b : Expr} (op : BoolOpK) (ha : wfE a) (hb : wfE b) : wfE (.boolOp op [a, b]) := by
  simp only [wfE, wfL]; exact ⟨by simp, ha, hb, trivial⟩

theorem wfE_dictLoad (d x : String) : wfE (dictLoad d x) :=
  wfE_subscript (wfE_name d) (wfE_str x) (by intro es h; cases h)

theorem getLoad_wf {n : Nsp} {b : List String} {x : String} {e : Expr} (h : n.getLoad b x = .ok e) : wfE e := by
  rcases Nsp.getLoad_cases h with rfl | ⟨d, rfl⟩
  · exact wfE_name x
  · exact wfE_dictLoad d x

theorem wfE_setitem (d x : String) {v : Expr} (hv : wfE v) : wfE (dictSetitem d x v) :=
  wfE_call (wfE_attribute _ (wfE_name d)) (wfL_cons (wfE_str x) (wfL_cons hv wfL_nil))

theorem wfE_globalsSetitem (x : String) {v : Expr} (hv : wfE v) : wfE (globalsSetitem x v) :=
  wfE_call (wfE_attribute _ (wfE_call (wfE_name _) wfL_nil)) (wfL_cons (wfE_str x) (wfL_cons hv wfL_nil))

theorem getAssign_wf {n : Nsp} {x : String} {v e : Expr} (h : n.getAssign x v = .ok e) (hv : wfE v) : wfE e := by
  rcases Nsp.getAssign_cases h with rfl | rfl | ⟨d, rfl⟩
  · exact wfE_namedExpr x hv
  · exact wfE_globalsSetitem x hv
  · exact wfE_setitem d x hv


/-! ### the expression transformer keeps trees well-formed -/

theorem compTargetNames_kind {t : Expr} {ns : List String} (h : compTargetNames t = .ok ns) : targetKind t = true := by
  cases t <;> first | rfl | (simp only [compTargetNames] at h; cases h)

/-- Where an expression stands decides what is asked of it: `wfE` in an ordinary position, `wfSlice` as an index,
    `wfElts` / `wfSliceElts` as an element of a display / of an index tuple, `wfParts` / `wfSpec` inside an f-string.
    For the heads that are `plain` all of these ask `wfE` (or are impossible): `plain_positions`. -/
def plain : Expr → Bool
  | .slice .. | .starred _ | .tuple _ | .const _ | .formattedValue .. | .joinedStr _ => false
  | _ => true

structure PlainPositions (e : Expr) : Prop where
  wfSlice : wfSlice e ↔ wfE e
  wfElts : ∀ es, wfElts (e :: es) ↔ wfE e ∧ wfElts es
  wfSliceElts : ∀ es, wfSliceElts (e :: es) ↔ wfE e ∧ wfSliceElts es
  wfParts : ∀ vs, ¬ wfParts (e :: vs)
  wfSpec : ¬ wfSpec (some e)
  isConstStr : isConstStrE e = false
  isSlice : isSlice e = false

theorem plain_positions {e : Expr} (h : plain e = true) : PlainPositions e := by
  cases e <;> first
    | (cases h; done)
    | exact ⟨by simp only [wfSlice], fun _ => by simp only [wfElts], fun _ => by simp only [wfSliceElts],
        fun _ => by simp only [wfParts, not_false_eq_true], by simp only [wfSpec, not_false_eq_true], rfl, rfl⟩

/-- How a result of the transformer stands to its source: the head is copied (only a name or a walrus may come out
    as another plain head) and what lies below it stays well-formed; so the result is well-formed in every
    position in which the source is (`expr`, `index`, `elts`, `sliceElts`, `parts`, `spec` below). -/
inductive WfPres : Expr → Expr → Prop
  | plain {e e'} : plain e = true → plain e' = true → (wfE e → wfE e') → WfPres e e'
  | const {c} : WfPres (.const c) (.const c)
  | starred {v v'} : (wfE v → wfE v') → WfPres (.starred v) (.starred v')
  | slice {x y z x' y' z'} : (wfO x → wfO x') → (wfO y → wfO y') → (wfO z → wfO z') →
      WfPres (.slice x y z) (.slice x' y' z')
  | tuple {es es'} : (wfElts es → wfElts es') → (wfSliceElts es → wfSliceElts es') → es'.any isSlice = es.any isSlice →
      WfPres (.tuple es) (.tuple es')
  | field {v c s v' s'} : (wfE v → wfE v') → (wfSpec s → wfSpec s') → WfPres (.formattedValue v c s) (.formattedValue v' c s')
  | fstring {vs vs'} : (wfParts vs → wfParts vs') → (wfParts vs → specNoBrace vs = true → specNoBrace vs' = true) →
      WfPres (.joinedStr vs) (.joinedStr vs')

namespace WfPres

theorem expr {e e' : Expr} (h : WfPres e e') (hw : wfE e) : wfE e' := by
  cases h with
  | plain _ _ h => exact h hw
  | const => exact hw
  | tuple h _ _ => simp only [wfE] at hw ⊢; exact h hw
  | fstring h _ => simp only [wfE] at hw ⊢; exact h hw
  | _ => simp only [wfE] at hw

theorem index {e e' : Expr} (h : WfPres e e') (hw : wfSlice e) : wfSlice e' := by
  cases h with
  | plain he he' h => exact (plain_positions he').wfSlice.mpr (h ((plain_positions he).wfSlice.mp hw))
  | const => exact hw
  | slice hx hy hz => simp only [wfSlice] at hw ⊢; exact ⟨hx hw.1, hy hw.2.1, hz hw.2.2⟩
  | tuple h1 h2 ha =>
    simp only [wfSlice, ha] at hw ⊢
    split
    · rename_i hany; rw [if_pos hany] at hw; exact h2 hw
    · rename_i hany; rw [if_neg hany] at hw; exact h1 hw
  | fstring h _ => simp only [wfSlice, wfE] at hw ⊢; exact h hw
  | _ => simp only [wfSlice, wfE] at hw

theorem elts {e e' : Expr} (h : WfPres e e') {es es' : List Expr} (hs : wfElts es → wfElts es') (hw : wfElts (e :: es)) :
    wfElts (e' :: es') := by
  cases h with
  | plain he he' h =>
    rw [(plain_positions he).wfElts] at hw; rw [(plain_positions he').wfElts]; exact ⟨h hw.1, hs hw.2⟩
  | const => simp only [wfElts] at hw ⊢; exact ⟨hw.1, hs hw.2⟩
  | starred h => simp only [wfElts] at hw ⊢; exact ⟨h hw.1, hs hw.2⟩
  | tuple h _ _ => simp only [wfElts, wfE] at hw ⊢; exact ⟨h hw.1, hs hw.2⟩
  | fstring h _ => simp only [wfElts, wfE] at hw ⊢; exact ⟨h hw.1, hs hw.2⟩
  | _ => simp only [wfElts, wfE, false_and] at hw

theorem sliceElts {e e' : Expr} (h : WfPres e e') {es es' : List Expr} (hs : wfSliceElts es → wfSliceElts es')
    (hw : wfSliceElts (e :: es)) : wfSliceElts (e' :: es') := by
  cases h with
  | plain he he' h =>
    rw [(plain_positions he).wfSliceElts] at hw; rw [(plain_positions he').wfSliceElts]; exact ⟨h hw.1, hs hw.2⟩
  | const => simp only [wfSliceElts] at hw ⊢; exact ⟨hw.1, hs hw.2⟩
  | starred h => simp only [wfSliceElts] at hw ⊢; exact ⟨h hw.1, hs hw.2⟩
  | slice hx hy hz => simp only [wfSliceElts] at hw ⊢; exact ⟨hx hw.1, hy hw.2.1, hz hw.2.2.1, hs hw.2.2.2⟩
  | tuple h _ _ => simp only [wfSliceElts, wfE] at hw ⊢; exact ⟨h hw.1, hs hw.2⟩
  | fstring h _ => simp only [wfSliceElts, wfE] at hw ⊢; exact ⟨h hw.1, hs hw.2⟩
  | field _ _ => simp only [wfSliceElts, wfE, false_and] at hw

theorem isStr {e e' : Expr} (h : WfPres e e') : isConstStrE e' = isConstStrE e := by
  cases h with
  | plain he he' _ => rw [(plain_positions he).isConstStr, (plain_positions he').isConstStr]
  | _ => rfl

theorem isSlice {e e' : Expr} (h : WfPres e e') : isSlice e' = isSlice e := by
  cases h with
  | plain he he' _ => rw [(plain_positions he).isSlice, (plain_positions he').isSlice]
  | _ => rfl

/-- a part of an f-string: the literal text is copied, a replacement field stays one -/
theorem parts {e e' : Expr} (h : WfPres e e') {vs vs' : List Expr}
    (hh : vs'.head?.map isConstStrE = vs.head?.map isConstStrE)
    (hs : wfParts vs → wfParts vs' ∧ (specNoBrace vs = true → specNoBrace vs' = true)) (hw : wfParts (e :: vs)) :
    wfParts (e' :: vs') ∧ (specNoBrace (e :: vs) = true → specNoBrace (e' :: vs') = true) := by
  cases h with
  | plain he _ _ => exact absurd hw ((plain_positions he).wfParts vs)
  | @const c =>
    cases c with
    | str cps =>
      simp only [wfParts, specNoBrace, Bool.and_eq_true] at hw ⊢
      exact ⟨⟨hw.1, hw.2.1, hh ▸ hw.2.2.1, (hs hw.2.2.2).1⟩, fun hn => ⟨hn.1, (hs hw.2.2.2).2 hn.2⟩⟩
    | _ => simp only [wfParts] at hw
  | field hv hsp =>
    simp only [wfParts, specNoBrace] at hw ⊢
    exact ⟨⟨hv hw.1, hw.2.1, hsp hw.2.2.1, (hs hw.2.2.2).1⟩, (hs hw.2.2.2).2⟩
  | _ => simp only [wfParts] at hw

theorem spec {e e' : Expr} (h : WfPres e e') (hw : wfSpec (some e)) : wfSpec (some e') := by
  cases h with
  | plain he _ _ => exact absurd hw (plain_positions he).wfSpec
  | fstring h hb => simp only [wfSpec] at hw ⊢; exact ⟨h hw.1, hb hw.1 hw.2⟩
  | _ => simp only [wfSpec] at hw

end WfPres

/-- what a transformed list keeps, whatever it is a list of: operands, elements, index elements, parts of an f-string -/
structure WfPresL (es es' : List Expr) : Prop where
  wfL : wfL es → wfL es'
  elts : wfElts es → wfElts es'
  sliceElts : wfSliceElts es → wfSliceElts es'
  parts : wfParts es → wfParts es' ∧ (specNoBrace es = true → specNoBrace es' = true)
  headStr : es'.head?.map isConstStrE = es.head?.map isConstStrE
  anySlice : es'.any isSlice = es.any isSlice
  length : es'.length = es.length

theorem wfElts_tail {e : Expr} {es es' : List Expr} (hw : wfElts (e :: es)) (hs : wfElts es → wfElts es') : wfElts (e :: es') := by
  cases e <;> simp only [wfElts] at hw ⊢ <;> exact ⟨hw.1, hs hw.2⟩

theorem optList_length {es es' : List (Option Expr)} (h : es'.map Option.isSome = es.map Option.isSome) :
    es'.length = es.length := by
  rw [← List.length_map (f := Option.isSome), h, List.length_map]

theorem transf_wf_cases (n : Nsp) :
    TransfCases n (fun _ => WfPres) (fun _ => WfPresL)
      (fun _ o o' => (wfO o → wfO o') ∧ (wfSpec o → wfSpec o'))
      (fun _ es es' => (wfOL es → wfOL es') ∧ es'.map Option.isSome = es.map Option.isSome)
      (fun _ its its' => wfItems its → wfItems its') (fun _ ks ks' => wfKws ks → wfKws ks')
      (fun _ _ gs gs' => (wfG gs → wfG gs') ∧ (gs ≠ [] → gs' ≠ []))
      -- a starred target is not `wfE` by itself, only as an element of a tuple / list target: the second part is
      -- the step of `wfElts` over a target
      (fun _ t t' => (wfE t → wfE t' ∧ targetKind t' = targetKind t) ∧
        ∀ {es es'}, (wfElts es → wfElts es') → wfElts (t :: es) → wfElts (t' :: es'))
      (fun _ es es' => wfElts es → wfElts es') where
  name h := by
    rcases Nsp.getLoad_cases h with rfl | ⟨d, rfl⟩
    · exact .plain rfl rfl id
    · exact .plain rfl rfl fun _ => wfE_dictLoad d _
  const := .const
  walrus hv := .plain rfl rfl fun hw => by simp only [wfE] at hw ⊢; exact hv.expr hw
  walrusStore hv hr _ hl := .plain rfl rfl fun hw => by
    simp only [wfE] at hw
    exact wfE_subscript (wfE_list (wfL_cons (getAssign_wf hr (hv.expr hw)) (wfL_cons (getLoad_wf hl) wfL_nil))) wfE_neg1
      (by intro es he; cases he)
  lambda hds hkd hb := .plain rfl rfl fun hw => by
    simp only [wfE, wfA, hds.length, optList_length hkd.2] at hw ⊢
    exact ⟨⟨hw.1.1, hw.1.2.1, hds.wfL hw.1.2.2.1, hkd.1 hw.1.2.2.2⟩, hb.expr hw.2⟩
  listComp _ he hg := .plain rfl rfl fun hw => by
    simp only [wfE] at hw ⊢; exact ⟨he.expr hw.1, hg.2 hw.2.1, hg.1 hw.2.2⟩
  setComp _ he hg := .plain rfl rfl fun hw => by
    simp only [wfE] at hw ⊢; exact ⟨he.expr hw.1, hg.2 hw.2.1, hg.1 hw.2.2⟩
  generatorExp _ he hg := .plain rfl rfl fun hw => by
    simp only [wfE] at hw ⊢; exact ⟨he.expr hw.1, hg.2 hw.2.1, hg.1 hw.2.2⟩
  dictComp _ hk hv hg := .plain rfl rfl fun hw => by
    simp only [wfE] at hw ⊢; exact ⟨hk.expr hw.1, hv.expr hw.2.1, hg.2 hw.2.2.1, hg.1 hw.2.2.2⟩
  joinedStr h := .fstring (fun hw => (h.parts hw).1) (fun hw => (h.parts hw).2)
  formattedValue hv hs := .field hv.expr hs.2
  list h := .plain rfl rfl fun hw => by simp only [wfE] at hw ⊢; exact h.elts hw
  tuple h := .tuple h.elts h.sliceElts h.anySlice
  set h := .plain rfl rfl fun hw => by
    simp only [wfE] at hw ⊢
    exact ⟨fun he => hw.1 (List.eq_nil_of_length_eq_zero (by rw [← h.length, he]; rfl)), h.elts hw.2⟩
  dict h := .plain rfl rfl fun hw => by simp only [wfE] at hw ⊢; exact h hw
  starred h := .starred h.expr
  attr h := .plain rfl rfl fun hw => by simp only [wfE] at hw ⊢; exact h.expr hw
  subscript hv hs := .plain rfl rfl fun hw => by simp only [wfE] at hw ⊢; exact ⟨hv.expr hw.1, hs.index hw.2⟩
  slice hx hy hz := .slice hx.1 hy.1 hz.1
  call hf ha hk := .plain rfl rfl fun hw => by simp only [wfE] at hw ⊢; exact ⟨hf.expr hw.1, ha.elts hw.2.1, hk hw.2.2⟩
  binOp hx hy := .plain rfl rfl fun hw => by simp only [wfE] at hw ⊢; exact ⟨hx.expr hw.1, hy.expr hw.2⟩
  boolOp h := .plain rfl rfl fun hw => by simp only [wfE, h.length] at hw ⊢; exact ⟨hw.1, h.wfL hw.2⟩
  unaryOp h := .plain rfl rfl fun hw => by simp only [wfE] at hw ⊢; exact h.expr hw
  compare hl hc := .plain rfl rfl fun hw => by
    simp only [wfE, hc.length] at hw ⊢; exact ⟨hl.expr hw.1, hw.2.1, hw.2.2.1, hc.wfL hw.2.2.2⟩
  ifExp ht hx hy := .plain rfl rfl fun hw => by
    simp only [wfE] at hw ⊢; exact ⟨ht.expr hw.1, hx.expr hw.2.1, hy.expr hw.2.2⟩
  listNil := ⟨id, id, id, fun h => ⟨h, id⟩, rfl, rfl, rfl⟩
  listCons he hes :=
    { wfL := fun hw => by simp only [wfL] at hw ⊢; exact ⟨he.expr hw.1, hes.wfL hw.2⟩
      elts := he.elts hes.elts
      sliceElts := he.sliceElts hes.sliceElts
      parts := he.parts hes.headStr hes.parts
      headStr := by simp only [List.head?_cons, Option.map_some, he.isStr]
      anySlice := by simp only [List.any_cons, he.isSlice, hes.anySlice]
      length := by simp only [List.length_cons, hes.length] }
  optNone := ⟨id, id⟩
  optSome h := ⟨fun hw => by simp only [wfO] at hw ⊢; exact h.expr hw, h.spec⟩
  optListNil := ⟨id, rfl⟩
  optListNone h := ⟨fun hw => by simp only [wfOL] at hw ⊢; exact h.1 hw, by simp only [List.map_cons, h.2]⟩
  optListSome he hes :=
    ⟨fun hw => by simp only [wfOL] at hw ⊢; exact ⟨he.expr hw.1, hes.1 hw.2⟩, by simp only [List.map_cons, hes.2, Option.isSome_some]⟩
  itemsNil := id
  itemsStar hv hi := fun hw => by simp only [wfItems] at hw ⊢; exact ⟨hv.expr hw.1, hi hw.2⟩
  itemsKey hk hv hi := fun hw => by simp only [wfItems] at hw ⊢; exact ⟨hk.expr hw.1, hv.expr hw.2.1, hi hw.2.2⟩
  kwNil := id
  kwCons hv hk := fun hw => by simp only [wfKws] at hw ⊢; exact ⟨hv.expr hw.1, hk hw.2⟩
  compsNil := ⟨id, id⟩
  compsCons ht hi hifs hg :=
    ⟨fun hw => by
      simp only [wfG] at hw ⊢
      have htt := ht.1 hw.2.1
      exact ⟨htt.2 ▸ hw.1, htt.1, hi.expr hw.2.2.1, hifs.wfL hw.2.2.2.1, hg.1 hw.2.2.2.2⟩,
     fun _ => List.cons_ne_nil _ _⟩
  tTuple h :=
    have hE := fun hw => by simp only [wfE] at hw ⊢; exact h hw
    ⟨fun hw => ⟨hE hw, rfl⟩, fun hs hw => by simp only [wfElts] at hw; exact wfElts_cons (hE hw.1) (hs hw.2)⟩
  tList h :=
    have hE := fun hw => by simp only [wfE] at hw ⊢; exact h hw
    ⟨fun hw => ⟨hE hw, rfl⟩, fun hs hw => by simp only [wfElts] at hw; exact wfElts_cons (hE hw.1) (hs hw.2)⟩
  tStarred h := ⟨fun hw => by simp only [wfE] at hw, fun hs hw => by simp only [wfElts] at hw ⊢; exact ⟨(h.1 hw.1).1, hs hw.2⟩⟩
  tAttribute h :=
    have hE := fun hw => by simp only [wfE] at hw ⊢; exact h.expr hw
    ⟨fun hw => ⟨hE hw, rfl⟩, fun hs hw => by simp only [wfElts] at hw; exact wfElts_cons (hE hw.1) (hs hw.2)⟩
  tSubscript hv hs :=
    have hE := fun hw => by simp only [wfE] at hw ⊢; exact ⟨hv.expr hw.1, hs.index hw.2⟩
    ⟨fun hw => ⟨hE hw, rfl⟩, fun hs hw => by simp only [wfElts] at hw; exact wfElts_cons (hE hw.1) (hs hw.2)⟩
  tOther _ _ _ _ _ := ⟨fun hw => ⟨hw, rfl⟩, fun hs hw => wfElts_tail hw hs⟩
  tsNil := id
  tsCons he hes := he.2 hes

theorem transf_wf (n : Nsp) : ∀ (b : List String) (e e' : Expr), transf n b e = .ok e' → wfE e → wfE e' :=
  fun _ _ _ h => ((transf_wf_cases n).expr h).expr

theorem transfList_wfL (n : Nsp) : ∀ (b : List String) (es es' : List Expr), transfList n b es = .ok es' → wfL es → wfL es' :=
  fun _ _ _ h => ((transf_wf_cases n).exprs h).wfL

theorem transfList_wfElts (n : Nsp) : ∀ (b : List String) (es es' : List Expr), transfList n b es = .ok es' →
    wfElts es → wfElts es' :=
  fun _ _ _ h => ((transf_wf_cases n).exprs h).elts

theorem transfList_wfSliceElts (n : Nsp) : ∀ (b : List String) (es es' : List Expr), transfList n b es = .ok es' →
    wfSliceElts es → wfSliceElts es' :=
  fun _ _ _ h => ((transf_wf_cases n).exprs h).sliceElts

theorem transfList_parts (n : Nsp) : ∀ (b : List String) (vs vs' : List Expr), transfList n b vs = .ok vs' →
    wfParts vs → wfParts vs' :=
  fun _ _ _ h hw => (((transf_wf_cases n).exprs h).parts hw).1

theorem transfList_len (n : Nsp) (b : List String) : ∀ (es es' : List Expr), transfList n b es = .ok es' → es'.length = es.length :=
  fun _ _ h => ((transf_wf_cases n).exprs h).length

theorem transfOpt_wf (n : Nsp) : ∀ (b : List String) (o o' : Option Expr), transfOpt n b o = .ok o' → wfO o → wfO o' :=
  fun _ _ _ h => ((transf_wf_cases n).opt h).1

theorem transfOptList_wf (n : Nsp) : ∀ (b : List String) (es es' : List (Option Expr)), transfOptList n b es = .ok es' →
    wfOL es → wfOL es' :=
  fun _ _ _ h => ((transf_wf_cases n).opts h).1

theorem transfOptList_len (n : Nsp) (b : List String) : ∀ (es es' : List (Option Expr)),
    transfOptList n b es = .ok es' → es'.length = es.length :=
  fun _ _ h => optList_length ((transf_wf_cases n).opts h).2

theorem transfItems_wf (n : Nsp) : ∀ (b : List String) (its its' : List DictItem), transfItems n b its = .ok its' →
    wfItems its → wfItems its' :=
  fun _ _ _ => (transf_wf_cases n).items

theorem transfKeywords_wf (n : Nsp) : ∀ (b : List String) (ks ks' : List Keyword), transfKeywords n b ks = .ok ks' →
    wfKws ks → wfKws ks' :=
  fun _ _ _ => (transf_wf_cases n).keywords

theorem transfComps_wf (n : Nsp) : ∀ (f b : List String) (gs gs' : List Comp), transfComps n f b gs = .ok gs' → wfG gs → wfG gs' :=
  fun _ _ _ _ h => ((transf_wf_cases n).comps h).1

theorem transfTarget_wf (n : Nsp) : ∀ (b : List String) (t t' : Expr), transfTarget n b t = .ok t' →
    wfE t → wfE t' ∧ targetKind t' = targetKind t :=
  fun _ _ _ h => ((transf_wf_cases n).target h).1

theorem transfTargets_wf (n : Nsp) : ∀ (b : List String) (es es' : List Expr), transfTargets n b es = .ok es' →
    wfElts es → wfElts es' :=
  fun _ _ _ => (transf_wf_cases n).targets

end OlVerif
