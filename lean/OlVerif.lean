import OlVerif.Ops
